/-
A program logic for the parser monad `P`.  `Ensures p K E`: from every cursor `c`, a success of `p` with value `a`
at `c'` satisfies `K c a c'`, an exception out of a parse action satisfies `E`; failures are always allowed.
Closed under every combinator; used in three views: `Raises` (`K` trivial), `Post` (`K` of the value only),
`Fuel.Adv` (`K` of the cursors only).
-/
import PyDBMLModel
namespace PyDBML
namespace Hoare
open Lex Grammar

def Allows {α : Type} (K : α → Cur → Prop) (E : PErr → Prop) : Res α → Prop
  | .ok a c => K a c
  | .exn e => E e
  | _ => True

def Ensures {α : Type} (p : P α) (K : Cur → α → Cur → Prop) (E : PErr → Prop) : Prop :=
  ∀ c, Allows (K c) E (p c)

class Raises {α : Type} (E : PErr → Prop) (p : P α) : Prop where
  out : ∀ c e, p c = .exn e → E e

def Post {α : Type} (p : P α) (Q : α → Prop) : Prop := ∀ c a c', p c = .ok a c' → Q a

variable {α β : Type} {E : PErr → Prop}

theorem Allows.imp {K K' : α → Cur → Prop} {E' : PErr → Prop} {r : Res α} (h : Allows K E r)
    (hK : ∀ a c, K a c → K' a c) (hE : ∀ e, E e → E' e) : Allows K' E' r := by
  cases r with
  | ok a c => exact hK a c h
  | exn e => exact hE e h
  | fail => trivial
  | fatal => trivial

theorem ensures_iff {p : P α} {K : Cur → α → Cur → Prop} :
    Ensures p K E ↔ (∀ c a c', p c = .ok a c' → K c a c') ∧ ∀ c e, p c = .exn e → E e := by
  refine ⟨fun h => ⟨fun c a c' hc => ?_, fun c e hc => ?_⟩, fun h c => ?_⟩
  · have := h c; rwa [hc] at this
  · have := h c; rwa [hc] at this
  · cases hc : p c with
    | ok a c' => exact h.1 c a c' hc
    | exn e => exact h.2 c e hc
    | fail => trivial
    | fatal => trivial

theorem ensures_pure {K : Cur → α → Cur → Prop} (a : α) (h : ∀ c, K c a c) : Ensures (pure a : P α) K E := h

theorem ensures_pfail {K : Cur → α → Cur → Prop} : Ensures (pfail : P α) K E := fun _ => trivial

theorem ensures_pexn {K : Cur → α → Cur → Prop} {e : PErr} (h : E e) : Ensures (pexn e : P α) K E := fun _ => h

/-- the continuation is asked only where `p` stopped, and may use what `p` ensured there -/
theorem ensures_bind {p : P α} {f : α → P β} {Kp : Cur → α → Cur → Prop} {K : Cur → β → Cur → Prop}
    (hp : Ensures p Kp E) (hf : ∀ c a c1, Kp c a c1 → Allows (K c) E (f a c1)) : Ensures (p >>= f) K E := by
  intro c
  have h := hp c
  show Allows (K c) E (pbind p f c)
  unfold pbind
  generalize p c = r at h ⊢
  cases r with
  | ok a c1 => exact hf c a c1 h
  | exn e => exact h
  | fail => trivial
  | fatal => trivial

theorem ensures_alt {p q : P α} {K : Cur → α → Cur → Prop} (hp : Ensures p K E) (hq : Ensures q K E) :
    Ensures (alt p q) K E := by
  intro c
  have h := hp c
  unfold alt
  generalize p c = r at h ⊢
  cases r with
  | fail => exact hq c
  | ok a c1 => exact h
  | exn e => exact h
  | fatal => trivial

theorem ensures_cut {p : P α} {K : Cur → α → Cur → Prop} (hp : Ensures p K E) : Ensures (cut p) K E := by
  intro c
  have h := hp c
  unfold cut
  generalize p c = r at h ⊢
  cases r with
  | ok a c1 => exact h
  | exn e => exact h
  | fail => trivial
  | fatal => trivial

theorem ensures_opt {p : P α} {K : Cur → Option α → Cur → Prop}
    (hp : Ensures p (fun c a c' => K c (some a) c') E) (hnone : ∀ c, K c none c) : Ensures (opt p) K E := by
  intro c
  have h := hp c
  unfold opt
  generalize p c = r at h ⊢
  cases r with
  | ok a c1 => exact h
  | fail => exact hnone c
  | exn e => exact h
  | fatal => trivial

theorem ensures_many {p : P α} {Kp : Cur → α → Cur → Prop} {K : Cur → List α → Cur → Prop}
    (hp : Ensures p Kp E) (nil : ∀ c, K c [] c)
    (cons : ∀ c a c1 as c2, Kp c a c1 → K c1 as c2 → K c (a :: as) c2) : ∀ n, Ensures (many p n) K E
  | 0 => nil
  | n + 1 => by
    intro c
    have h := hp c
    unfold many
    generalize p c = r at h ⊢
    cases r with
    | ok a c1 =>
      dsimp only
      have h2 := ensures_many hp nil cons n c1
      split
      · exact cons _ _ _ _ _ h (nil c1)
      · generalize many p n c1 = r2 at h2 ⊢
        cases r2 with
        | ok as c2 => exact cons _ _ _ _ _ h h2
        | fail => exact cons _ _ _ _ _ h (nil c1)
        | exn e => exact h2
        | fatal => trivial
    | fail => exact nil c
    | exn e => exact h
    | fatal => trivial

theorem ensures_orLongest {p q : P α} {K : Cur → α → Cur → Prop} (hp : Ensures p K E) (hq : Ensures q K E) :
    Ensures (orLongest p q) K E := by
  intro c
  have h1 := hp c
  have h2 := hq c
  unfold orLongest
  generalize p c = r at h1 ⊢
  generalize q c = s at h2 ⊢
  -- the result is `p`'s or `q`'s (`h1`, `h2`) or a failure; only when both succeed is there a choice, the `if`
  cases r <;> cases s <;> first | exact h1 | exact h2 | trivial | (dsimp only; split <;> assumption)

/- Where a closure stands twice, the theorem is what `raises_tac` (Props/C08.lean) applies where a rule binds a pattern or branches
   (instance search cannot look inside), and the instance (`_inst`) closes the rest at once. -/

theorem raises_iff {p : P α} : Raises E p ↔ Ensures p (fun _ _ _ => True) E :=
  ⟨fun h => ensures_iff.mpr ⟨fun _ _ _ _ => trivial, h.out⟩, fun h => ⟨(ensures_iff.mp h).2⟩⟩

instance raises_pure (a : α) : Raises E (pure a : P α) := raises_iff.mpr (ensures_pure a fun _ => trivial)
instance raises_ppure (a : α) : Raises E (ppure a : P α) := raises_pure a
instance raises_pfail : Raises E (pfail : P α) := raises_iff.mpr ensures_pfail

theorem raises_pexn (e : PErr) (h : E e) : Raises E (pexn e : P α) := raises_iff.mpr (ensures_pexn h)

theorem raises_bind (p : P α) (f : α → P β) (hp : Raises E p) (hf : ∀ a, Raises E (f a)) :
    Raises E (p >>= f) :=
  raises_iff.mpr (ensures_bind (raises_iff.mp hp) fun _ a c1 _ => raises_iff.mp (hf a) c1)

instance raises_bind_inst (p : P α) (f : α → P β) [hp : Raises E p] [hf : ∀ a, Raises E (f a)] :
    Raises E (p >>= f) := raises_bind p f hp hf

theorem raises_alt (p q : P α) (hp : Raises E p) (hq : Raises E q) : Raises E (alt p q) :=
  raises_iff.mpr (ensures_alt (raises_iff.mp hp) (raises_iff.mp hq))

instance raises_alt_inst (p q : P α) [hp : Raises E p] [hq : Raises E q] : Raises E (alt p q) :=
  raises_alt p q hp hq

theorem raises_cut (p : P α) (hp : Raises E p) : Raises E (cut p) := raises_iff.mpr (ensures_cut (raises_iff.mp hp))

instance raises_cut_inst (p : P α) [hp : Raises E p] : Raises E (cut p) := raises_cut p hp

theorem raises_opt (p : P α) (hp : Raises E p) : Raises E (opt p) :=
  raises_iff.mpr (ensures_opt (raises_iff.mp hp) fun _ => trivial)

instance raises_opt_inst (p : P α) [hp : Raises E p] : Raises E (opt p) := raises_opt p hp

theorem raises_many (p : P α) (hp : Raises E p) (n : Nat) : Raises E (many p n) :=
  raises_iff.mpr (ensures_many (raises_iff.mp hp) (fun _ => trivial) (fun _ _ _ _ _ _ _ => trivial) n)

instance raises_many_inst (p : P α) [hp : Raises E p] (n : Nat) : Raises E (many p n) := raises_many p hp n

theorem raises_manyF (p : P α) (hp : Raises E p) : Raises E (manyF p) :=
  ⟨fun c e h => (raises_many p hp (fuelOf c)).out c e h⟩

instance raises_manyF_inst (p : P α) [hp : Raises E p] : Raises E (manyF p) := raises_manyF p hp

instance raises_many1_inst (p : P α) [hp : Raises E p] : Raises E (many1 p) := by
  unfold many1; infer_instance

theorem raises_orLongest (p q : P α) (hp : Raises E p) (hq : Raises E q) : Raises E (orLongest p q) :=
  raises_iff.mpr (ensures_orLongest (raises_iff.mp hp) (raises_iff.mp hq))

instance raises_orLongest_inst (p q : P α) [hp : Raises E p] [hq : Raises E q] : Raises E (orLongest p q) :=
  raises_orLongest p q hp hq

theorem raises_skipWs (p : P α) (hp : Raises E p) : Raises E (fun c => p (skipWs c)) :=
  ⟨fun _ _ h => hp.out _ _ h⟩

instance raises_skipWs_inst (p : P α) [hp : Raises E p] : Raises E (fun c => p (skipWs c)) :=
  raises_skipWs p hp

instance raises_ite (b : Prop) [Decidable b] (p q : P α) [hp : Raises E p] [hq : Raises E q] :
    Raises E (if b then p else q) := by
  split <;> assumption

macro "prim_tac" : tactic =>
  `(tactic| (constructor; intro c e h; (try dsimp only at h); (repeat' split at h) <;> cases h))

instance (s : Str) : Raises E (litRaw s) := by unfold litRaw; prim_tac
instance (s : String) : Raises E (sym s) := by unfold sym litRaw; prim_tac
instance (s : String) : Raises E (clit s) := by unfold clit; prim_tac
instance (s : String) : Raises E (ckw s) := by unfold ckw; prim_tac
instance (p : Char → Bool) : Raises E (wordRaw p) := by unfold wordRaw; prim_tac
instance (p : Char → Bool) : Raises E (word p) := by unfold word wordRaw; prim_tac
instance : Raises E lineEnd := by unfold lineEnd; prim_tac
instance : Raises E stringEnd := by unfold stringEnd; prim_tac
instance : Raises E wordStart := by unfold wordStart; prim_tac
instance : Raises E wordEnd := by unfold wordEnd; prim_tac
instance : Raises E name := by unfold name; prim_tac
instance : Raises E stringLiteral := by unfold stringLiteral; prim_tac
instance : Raises E expressionLiteral := by unfold expressionLiteral; prim_tac
instance : Raises E numberLiteral := by unfold numberLiteral; prim_tac
instance : Raises E relation := by unfold relation; prim_tac
instance : Raises E hexColor := by unfold hexColor; prim_tac
instance : Raises E comment := by unfold comment; prim_tac
instance : Raises E white := by unfold white; prim_tac

theorem post_iff {p : P α} {Q : α → Prop} : Post p Q ↔ Ensures p (fun _ a _ => Q a) (fun _ => True) :=
  ⟨fun h => ensures_iff.mpr ⟨h, fun _ _ _ => trivial⟩, fun h => (ensures_iff.mp h).1⟩

theorem post_true (p : P α) : Post p (fun _ => True) := fun _ _ _ _ => trivial

theorem post_weaken {p : P α} {Q R : α → Prop} (h : Post p Q) (hq : ∀ a, Q a → R a) : Post p R :=
  fun c a c' hp => hq a (h c a c' hp)

theorem post_pure {Q : α → Prop} (a : α) (h : Q a) : Post (pure a : P α) Q := post_iff.mpr (ensures_pure a fun _ => h)

theorem post_pexn {Q : α → Prop} (e : PErr) : Post (pexn e : P α) Q := post_iff.mpr (ensures_pexn trivial)

theorem post_pfail {Q : α → Prop} : Post (pfail : P α) Q := post_iff.mpr ensures_pfail

theorem post_bind {p : P α} {f : α → P β} {R : α → Prop} {Q : β → Prop}
    (hp : Post p R) (hf : ∀ a, R a → Post (f a) Q) : Post (p >>= f) Q :=
  post_iff.mpr (ensures_bind (post_iff.mp hp) fun _ a c1 ha => post_iff.mp (hf a ha) c1)

theorem post_bind' {p : P α} {f : α → P β} {Q : β → Prop} (hf : ∀ a, Post (f a) Q) : Post (p >>= f) Q :=
  post_bind (post_true p) (fun a _ => hf a)

theorem post_alt {p q : P α} {Q : α → Prop} (hp : Post p Q) (hq : Post q Q) : Post (alt p q) Q :=
  post_iff.mpr (ensures_alt (post_iff.mp hp) (post_iff.mp hq))

theorem post_cut {p : P α} {Q : α → Prop} (hp : Post p Q) : Post (cut p) Q :=
  post_iff.mpr (ensures_cut (post_iff.mp hp))

theorem post_opt {p : P α} {Q : α → Prop} (hp : Post p Q) : Post (opt p) (fun o => ∀ a, o = some a → Q a) :=
  post_iff.mpr (ensures_opt (fun c => (post_iff.mp hp c).imp (fun _ _ h _ e => Option.some.inj e ▸ h) fun _ h => h)
    fun _ _ e => nomatch e)

theorem post_many {p : P α} {Q : α → Prop} (hp : Post p Q) (n : Nat) :
    Post (many p n) (fun l => ∀ a ∈ l, Q a) :=
  post_iff.mpr (ensures_many (post_iff.mp hp) (fun _ _ h => nomatch h)
    (fun _ _ _ _ _ ha has => List.forall_mem_cons.mpr ⟨ha, has⟩) n)

theorem post_manyF {p : P α} {Q : α → Prop} (hp : Post p Q) : Post (manyF p) (fun l => ∀ a ∈ l, Q a) :=
  fun c b c' h => post_many hp (fuelOf c) c b c' h

theorem post_many1 {p : P α} {Q : α → Prop} (hp : Post p Q) :
    Post (many1 p) (fun l => l ≠ [] ∧ ∀ a ∈ l, Q a) := by
  unfold many1
  exact post_bind hp fun a ha => post_bind (post_manyF hp) fun as has =>
    post_pure _ ⟨List.cons_ne_nil a as, List.forall_mem_cons.mpr ⟨ha, has⟩⟩

theorem post_orLongest {p q : P α} {Q : α → Prop} (hp : Post p Q) (hq : Post q Q) : Post (orLongest p q) Q :=
  post_iff.mpr (ensures_orLongest (post_iff.mp hp) (post_iff.mp hq))

theorem pbind_ok {p : P α} {f : α → P β} {c : Cur} {b : β} {c' : Cur} (h : (p >>= f) c = .ok b c') :
    ∃ a c1, p c = .ok a c1 ∧ f a c1 = .ok b c' := by
  change pbind p f c = _ at h
  unfold pbind at h
  cases hp : p c <;> rw [hp] at h <;> first | cases h | exact ⟨_, _, rfl, h⟩

/- `raises_tac` (Props/C08.lean) and `adv_tac` (Fuel.lean) walk `do` blocks; `expression`, `type_args` and the raw `name` are matches on results
   and cursors, so what they ensure is shown here, once for both logics. -/

theorem expression_succ (fuel : Nat) : expression (fuel + 1) = (manyF (factor fuel) >>= fun _ => pure ()) := by
  funext c
  show _ = pbind (manyF (factor fuel)) _ c
  unfold expression pbind manyF
  cases many (factor fuel) (fuelOf c) c <;> rfl

theorem ensures_typeArgs {M : Cur → Cur → Prop} (trans : ∀ {a b c}, M a b → M b c → M a c)
    (hl : ∀ s, Ensures (litRaw s) (fun c _ c' => M c c') E)
    (he : ∀ n, Ensures (expression n) (fun c _ c' => M c c') E) : Ensures typeArgs (fun c _ c' => M c c') E := by
  intro c
  unfold typeArgs
  have h1 := hl ['('] c
  generalize litRaw ['('] c = r1 at h1 ⊢
  cases r1 with
  | ok _ c1 =>
    dsimp only
    have h2 := he (fuelOf c1) c1
    generalize expression (fuelOf c1) c1 = r2 at h2 ⊢
    cases r2 with
    | ok _ c2 =>
      dsimp only
      have h3 := hl [')'] c2
      generalize litRaw [')'] c2 = r3 at h3 ⊢
      cases r3 with
      | ok _ c3 => exact trans (trans h1 h2) h3
      | exn e => exact h3
      | fail => trivial
      | fatal => trivial
    | exn e => exact h2
    | fail => trivial
    | fatal => trivial
  | exn e => exact h1
  | fail => trivial
  | fatal => trivial

theorem ensures_nameRaw {K : Cur → Str → Cur → Prop} (h : Ensures name K E) : Ensures nameRaw K E := by
  intro c
  unfold nameRaw
  split
  · split
    · trivial
    · exact h c
  · trivial

end Hoare
end PyDBML
