/-
A calculus for running the character-level parser model of `Lex.lean` / `Grammar.lean` on a known text.
`Run p v A B`: from every cursor in the state `A` the parser `p` succeeds with the value `v` and leaves a cursor in the
state `B`; `Fails p A`: from every cursor in `A` it fails.  A rule is run by following its `do` block with `Run.bind`, one
step a line; the states name the text that is left, so that the unifier finds it.
-/
import PyDBMLModel
namespace PyDBML
namespace Lex

variable {α β : Type}

def Run (p : P α) (v : α) (A B : Cur → Prop) : Prop := ∀ c, A c → ∃ c', p c = .ok v c' ∧ B c'

def Fails (p : P α) (A : Cur → Prop) : Prop := ∀ c, A c → p c = .fail

/-- `e`: the end of input has been passed -/
def AtE (s : Str) (e : Bool) (c : Cur) : Prop := c.rest = s ∧ c.pastEnd = e

abbrev At (s : Str) : Cur → Prop := AtE s false

/-- no keyword character stands before `s`: a `CaselessKeyword` may begin here -/
def AtWord (s : Str) (c : Cur) : Prop := At s c ∧ ∀ p, c.prev = some p → isKwIdent p = false

variable {p q : P α} {f : α → P β} {v : α} {w : β} {A B C : Cur → Prop}

theorem Run.of_at {s : Str} {e : Bool} (h : ∀ c, c.rest = s → c.pastEnd = e → ∃ c', p c = .ok v c' ∧ B c') :
    Run p v (AtE s e) B := fun c hc => h c hc.1 hc.2

theorem Run.at {s : Str} {e : Bool} (h : Run p v (AtE s e) B) (c : Cur) (hr : c.rest = s) (hp : c.pastEnd = e) :
    ∃ c', p c = .ok v c' ∧ B c' := h c ⟨hr, hp⟩

theorem Run.pure : Run (pure v : P α) v A A := fun c h => ⟨c, rfl, h⟩

theorem Run.pure_eq {v' : α} (h : v' = v) : Run (Pure.pure v' : P α) v A A := h ▸ .pure

theorem Run.bind (hp : Run p v A B) (hf : Run (f v) w B C) : Run (p >>= f) w A C := by
  intro c hc
  obtain ⟨c1, h1, hb⟩ := hp c hc
  obtain ⟨c2, h2, hc2⟩ := hf c1 hb
  exact ⟨c2, by simp only [Bind.bind, pbind, h1, h2], hc2⟩

theorem Run.same (h : ∀ c, A c → p c = .ok v c) : Run p v A A := fun c hc => ⟨c, h c hc, hc⟩

theorem Run.pre {A' : Cur → Prop} (h : Run p v A B) (hA : ∀ c, A' c → A c) : Run p v A' B :=
  fun c hc => h c (hA c hc)

theorem Run.post {B' : Cur → Prop} (h : Run p v A B) (hB : ∀ c, B c → B' c) : Run p v A B' :=
  fun c hc => let ⟨c', h1, h2⟩ := h c hc; ⟨c', h1, hB c' h2⟩

theorem Run.of_eq {c c' : Cur} (h : p c = .ok v c') (hB : B c') : Run p v (· = c) B := by
  rintro _ rfl; exact ⟨c', h, hB⟩

theorem Run.eq {c c' : Cur} (h : Run p v (· = c) (· = c')) : p c = .ok v c' :=
  let ⟨_, h1, e⟩ := h c rfl; e ▸ h1

theorem Fails.pfail : Fails (pfail : P α) A := fun _ _ => rfl

theorem Fails.bind (hp : Fails p A) : Fails (p >>= f) A := fun c hc => by
  simp only [Bind.bind, pbind, hp c hc]

theorem Fails.bind_after (hp : Run p v A B) (hf : Fails (f v) B) : Fails (p >>= f) A := fun c hc => by
  obtain ⟨c1, h1, hb⟩ := hp c hc
  simp only [Bind.bind, pbind, h1, hf c1 hb]

theorem Fails.pre {A' : Cur → Prop} (h : Fails p A) (hA : ∀ c, A' c → A c) : Fails p A' := fun c hc => h c (hA c hc)

/-- pyparsing's `Combine(...)` skips white space once, in front -/
theorem Run.skipWs {A' : Cur → Prop} (h : Run p v A' B) (hA : ∀ c, A c → A' (skipWs c)) :
    Run (fun c => p (Lex.skipWs c)) v A B := fun c hc => h _ (hA c hc)

theorem Fails.skipWs {A' : Cur → Prop} (h : Fails p A') (hA : ∀ c, A c → A' (skipWs c)) :
    Fails (fun c => p (Lex.skipWs c)) A := fun c hc => h _ (hA c hc)

theorem Run.alt_left (hp : Run p v A B) : Run (alt p q) v A B := fun c hc => by
  obtain ⟨c1, h1, hb⟩ := hp c hc
  exact ⟨c1, by simp only [alt, h1], hb⟩

theorem Run.alt_right (hp : Fails p A) (hq : Run q v A B) : Run (alt p q) v A B := fun c hc => by
  obtain ⟨c1, h1, hb⟩ := hq c hc
  exact ⟨c1, by simp only [alt, hp c hc, h1], hb⟩

theorem Fails.alt (hp : Fails p A) (hq : Fails q A) : Fails (alt p q) A := fun c hc => by
  simp only [Lex.alt, hp c hc, hq c hc]

theorem Run.cut (hp : Run p v A B) : Run (cut p) v A B := fun c hc => by
  obtain ⟨c1, h1, hb⟩ := hp c hc
  exact ⟨c1, by simp only [Lex.cut, h1], hb⟩

theorem Run.opt_some (hp : Run p v A B) : Run (opt p) (some v) A B := fun c hc => by
  obtain ⟨c1, h1, hb⟩ := hp c hc
  exact ⟨c1, by simp only [opt, h1], hb⟩

theorem Run.opt_none (hp : Fails p A) : Run (opt p) none A A :=
  .same fun c hc => by simp only [opt, hp c hc]

/-- `p₁ | p₂ | … | pₙ`, as the grammar nests its `alt`s -/
def firstOf : List (P α) → P α
  | [] => pfail
  | [p] => p
  | p :: q :: ps => alt p (firstOf (q :: ps))

theorem Run.first {pre post : List (P α)} (hpre : ∀ q ∈ pre, Fails q A) (hp : Run p v A B) :
    Run (firstOf (pre ++ p :: post)) v A B := by
  induction pre with
  | nil => cases post with
    | nil => exact hp
    | cons q qs => exact .alt_left hp
  | cons a pre ih =>
    have := ih fun q hq => hpre q (by simp [hq])
    cases pre <;> exact .alt_right (hpre a (by simp)) this

theorem Fails.first {ps : List (P α)} (h : ∀ q ∈ ps, Fails q A) : Fails (firstOf ps) A := by
  induction ps with
  | nil => exact .pfail
  | cons a ps ih =>
    have := ih fun q hq => h q (by simp [hq])
    cases ps with
    | nil => exact h a (by simp)
    | cons q qs => exact .alt (h a (by simp)) this

/-! ### repetition

`many p fuel` runs at most `fuel` rounds, the failing one included.  The facts are stated for every sufficient amount of
fuel (`∀ fuel, n < fuel → …`), so that rounds compose without arithmetic. -/

theorem Run.many_stop (hp : Fails p A) (fuel : Nat) (hf : 0 < fuel) : Run (many p fuel) [] A A := by
  obtain ⟨k, rfl⟩ : ∃ k, fuel = k + 1 := ⟨fuel - 1, by omega⟩
  exact .same fun c hc => by rw [many]; simp only [hp c hc]

theorem Run.many_cons {a : α} {as : List α} {n : Nat} (hp : Run p a A B)
    (hprog : ∀ c c', A c → B c' → c'.rest.length ≠ c.rest.length) (hm : ∀ fuel, n < fuel → Run (many p fuel) as B C)
    (fuel : Nat) (hf : n + 1 < fuel) : Run (many p fuel) (a :: as) A C := fun c hc => by
  obtain ⟨f, rfl⟩ : ∃ f, fuel = f + 1 := ⟨fuel - 1, by omega⟩
  obtain ⟨c1, h1, hb⟩ := hp c hc
  obtain ⟨c2, h2, hc2⟩ := hm f (by omega) c1 hb
  refine ⟨c2, ?_, hc2⟩
  rw [many]
  simp only [h1, hprog c c1 hc hb, decide_false, Bool.false_and, Bool.false_eq_true, ↓reduceIte, h2]

/-- `S ys`: the state in which the items `ys` are still to be read; after them at most `m` further rounds, the failing one
    included, read `els` -/
theorem Run.many_list {γ : Type} (g : γ → α) (S : List γ → Cur → Prop) (ok : γ → Prop)
    (step : ∀ x ys, ok x → Run p (g x) (S (x :: ys)) (S ys))
    (hprog : ∀ x ys c c', S (x :: ys) c → S ys c' → c'.rest.length ≠ c.rest.length)
    {m : Nat} {els : List α} {T : Cur → Prop} (hE : ∀ fuel, m < fuel → Run (many p fuel) els (S []) T) :
    ∀ xs, (∀ x ∈ xs, ok x) → ∀ fuel, xs.length + m < fuel → Run (many p fuel) (xs.map g ++ els) (S xs) T
  | [], _, fuel, hf => hE fuel (by simpa using hf)
  | x :: ys, hok, fuel, hf =>
    Run.many_cons (step x ys (hok x (by simp))) (hprog x ys)
      (Run.many_list g S ok step hprog hE ys fun y hy => hok y (by simp [hy])) fuel (by simp at hf; omega)

theorem Run.many_list_stop {γ : Type} (g : γ → α) (S : List γ → Cur → Prop) (ok : γ → Prop)
    (step : ∀ x ys, ok x → Run p (g x) (S (x :: ys)) (S ys))
    (hprog : ∀ x ys c c', S (x :: ys) c → S ys c' → c'.rest.length ≠ c.rest.length)
    (stop : Fails p (S [])) (xs : List γ) (hok : ∀ x ∈ xs, ok x) (fuel : Nat) (hf : xs.length < fuel) :
    Run (many p fuel) (xs.map g) (S xs) (S []) := by
  simpa using Run.many_list g S ok step hprog (Run.many_stop stop) xs hok fuel hf

theorem Run.manyF {vs : List α} {n : Nat} (h : ∀ fuel, n < fuel → Run (many p fuel) vs A B)
    (hn : ∀ c, A c → n ≤ c.rest.length + 1) : Run (Lex.manyF p) vs A B := fun c hc =>
  h (fuelOf c) (by have := hn c hc; simp only [fuelOf]; omega) c hc

theorem Run.manyF_nil (hp : Fails p A) : Run (Lex.manyF p) [] A A :=
  .manyF (Run.many_stop hp) (fun _ _ => Nat.zero_le _)

theorem Run.manyF_one {a : α} (hp : Run p a A B) (hprog : ∀ c c', A c → B c' → c'.rest.length ≠ c.rest.length)
    (stop : Fails p B) : Run (Lex.manyF p) [a] A B :=
  .manyF (Run.many_cons hp hprog (Run.many_stop stop)) (fun _ _ => by omega)

theorem Run.many1 {a : α} {as : List α} (hp : Run p a A B) (hm : Run (Lex.manyF p) as B C) :
    Run (many1 p) (a :: as) A C := .bind hp (.bind hm .pure)

theorem length_le_of_shrinks {γ : Type} (rest : List γ → Str) (h : ∀ x ys, (rest ys).length < (rest (x :: ys)).length) :
    ∀ xs, xs.length ≤ (rest xs).length
  | [] => Nat.zero_le _
  | x :: ys => by have := h x ys; have := length_le_of_shrinks rest h ys; simp only [List.length_cons]; omega

theorem AtE.prog {s s' : Str} {e e' : Bool} (h : s'.length ≠ s.length) :
    ∀ c c', AtE s e c → AtE s' e' c' → c'.rest.length ≠ c.rest.length := by
  rintro c c' ⟨h1, _⟩ ⟨h2, _⟩; rw [h1, h2]; exact h

/-- `rest ys` (`pe ys`): the text that is left (whether the end has been passed) when the items `ys` are still to be read;
    the first item may be read from a state of its own.  `m ≤ 1`: the fuel is `rest.length + 2`; every item shortens the
    text, so the items take at most `rest.length` rounds and the first one more: one round is left for what follows. -/
theorem Run.manyF_cons_list {γ : Type} (g : γ → α) (rest : List γ → Str) (pe : List γ → Bool) (ok : γ → Prop)
    (step : ∀ x ys, ok x → Run p (g x) (AtE (rest (x :: ys)) (pe (x :: ys))) (AtE (rest ys) (pe ys)))
    (hlen : ∀ x ys, (rest ys).length < (rest (x :: ys)).length)
    {m : Nat} (hm : m ≤ 1) {els : List α} {T : Cur → Prop}
    (hE : ∀ fuel, m < fuel → Run (many p fuel) els (AtE (rest []) (pe [])) T)
    (x : γ) (xs : List γ) (hok : ∀ y ∈ xs, ok y) (first : Run p (g x) A (AtE (rest xs) (pe xs)))
    (hA : ∀ c, A c → (rest xs).length < c.rest.length) : Run (Lex.manyF p) ((x :: xs).map g ++ els) A T :=
  .manyF (Run.many_cons first (fun c c' hc hc' => by have := hA c hc; rw [hc'.1]; omega)
      (Run.many_list g (fun ys => AtE (rest ys) (pe ys)) ok step (fun x ys => AtE.prog (Nat.ne_of_lt (hlen x ys))) hE xs hok))
    (fun c hc => by have := length_le_of_shrinks rest hlen xs; have := hA c hc; omega)

theorem Run.manyF_cons_list_stop {γ : Type} (g : γ → α) (rest : List γ → Str) (pe : List γ → Bool) (ok : γ → Prop)
    (step : ∀ x ys, ok x → Run p (g x) (AtE (rest (x :: ys)) (pe (x :: ys))) (AtE (rest ys) (pe ys)))
    (hlen : ∀ x ys, (rest ys).length < (rest (x :: ys)).length) (stop : Fails p (AtE (rest []) (pe [])))
    (x : γ) (xs : List γ) (hok : ∀ y ∈ xs, ok y) (first : Run p (g x) A (AtE (rest xs) (pe xs)))
    (hA : ∀ c, A c → (rest xs).length < c.rest.length) :
    Run (Lex.manyF p) ((x :: xs).map g) A (AtE (rest []) (pe [])) := by
  simpa using Run.manyF_cons_list g rest pe ok step hlen (Nat.zero_le 1) (Run.many_stop stop) x xs hok first hA

theorem Run.manyF_list_stop {γ : Type} (g : γ → α) (rest : List γ → Str) (pe : List γ → Bool) (ok : γ → Prop)
    (step : ∀ x ys, ok x → Run p (g x) (AtE (rest (x :: ys)) (pe (x :: ys))) (AtE (rest ys) (pe ys)))
    (hlen : ∀ x ys, (rest ys).length < (rest (x :: ys)).length) (stop : Fails p (AtE (rest []) (pe [])))
    (xs : List γ) (hok : ∀ x ∈ xs, ok x) :
    Run (Lex.manyF p) (xs.map g) (AtE (rest xs) (pe xs)) (AtE (rest []) (pe [])) :=
  .manyF (Run.many_list_stop g (fun ys => AtE (rest ys) (pe ys)) ok step (fun x ys => AtE.prog (Nat.ne_of_lt (hlen x ys))) stop
      xs hok)
    (fun c hc => by have := length_le_of_shrinks rest hlen xs; rw [hc.1]; omega)

end Lex
end PyDBML
