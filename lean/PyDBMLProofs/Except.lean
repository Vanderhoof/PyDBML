/-
Computations in `Except`, as the proofs about the build phase and the renderers need them: `>>=`, `mapM` and
`foldlM` taken apart; `C08.IsOk`, "it returns a value"; `getD?`, the renderers' lookup of a stored position.
-/
import PyDBMLModel
namespace PyDBML

-- outside `Exc`: the round-trip and reader proofs, which do not open `Exc`, call it by its bare name
theorem mapM_ok_map_mem {α β ε} (f : α → Except ε β) (g : α → β) :
    ∀ l : List α, (∀ a ∈ l, f a = .ok (g a)) → l.mapM f = .ok (l.map g)
  | [], _ => rfl
  | x :: xs, h => by
    rw [List.mapM_cons, h x (by simp), mapM_ok_map_mem f g xs (fun a ha => h a (by simp [ha]))]; rfl

namespace Exc

theorem bind_ok {ε α β} {x : Except ε α} {f : α → Except ε β} {b : β}
    (h : (x >>= f) = .ok b) : ∃ a, x = .ok a ∧ f a = .ok b := by
  cases x with
  | error e => cases h
  | ok a => exact ⟨a, rfl, h⟩

theorem bind_error {ε α β} {x : Except ε α} {f : α → Except ε β} {e : ε}
    (h : (x >>= f) = .error e) : x = .error e ∨ ∃ a, x = .ok a ∧ f a = .error e := by
  cases x with
  | error e' => exact .inl (by simpa [bind, Except.bind] using h)
  | ok a => exact .inr ⟨a, rfl, h⟩

/-- `xs` lists, in order, one `x` with `S a x` for every `a` of `l` -/
def Each {α β} (S : α → β → Prop) (l : List α) (xs : List β) : Prop :=
  xs.length = l.length ∧ ∀ k (hk : k < xs.length), ∃ a, l[k]? = some a ∧ S a xs[k]

theorem Each.nil {α β} {S : α → β → Prop} : Each S [] [] := ⟨rfl, fun k hk => absurd hk (Nat.not_lt_zero k)⟩

theorem Each.cons {α β} {S : α → β → Prop} {a : α} {x : β} {l : List α} {xs : List β} (h : S a x) (ht : Each S l xs) :
    Each S (a :: l) (x :: xs) := by
  refine ⟨congrArg Nat.succ ht.1, fun k hk => ?_⟩
  cases k with
  | zero => exact ⟨a, rfl, h⟩
  | succ k => exact ht.2 k (Nat.lt_of_succ_lt_succ hk)

theorem Each.mem {α β} {S : α → β → Prop} {l : List α} {xs : List β} (h : Each S l xs) {x : β} (hx : x ∈ xs) :
    ∃ a ∈ l, S a x := by
  obtain ⟨k, hk, rfl⟩ := List.mem_iff_getElem.mp hx
  obtain ⟨a, ha, hS⟩ := h.2 k hk
  exact ⟨a, List.mem_of_getElem? ha, hS⟩

theorem Each.map {α β γ} {S : α → β → Prop} {l : List α} {xs : List β} (h : Each S l xs) {k : β → γ} {k' : α → γ}
    (hk : ∀ a x, S a x → k x = k' a) : xs.map k = l.map k' := by
  apply List.ext_getElem (by simp [h.1])
  intro i h1 h2
  obtain ⟨a, ha, hS⟩ := h.2 i (by simpa using h1)
  have hi : i < l.length := by simpa using h2
  have : l[i] = a := Option.some.inj ((List.getElem?_eq_getElem hi).symm.trans ha)
  simp [hk a _ hS, this]

theorem mapM_ok {α β ε} {f : α → Except ε β} :
    ∀ {l : List α} {r : List β}, l.mapM f = .ok r → Each (fun a b => f a = .ok b) l r
  | [], r, h => by cases h; exact .nil
  | x :: xs, r, h => by
    rw [List.mapM_cons] at h
    obtain ⟨y, hy, h⟩ := bind_ok h
    obtain ⟨ys, hys, h⟩ := bind_ok h
    cases h
    exact .cons hy (mapM_ok hys)

theorem mapM_error {α β ε} {f : α → Except ε β} :
    ∀ {l : List α} {e : ε}, l.mapM f = .error e → ∃ a ∈ l, f a = .error e
  | [], e, h => by cases h
  | x :: xs, e, h => by
    rw [List.mapM_cons] at h
    rcases bind_error h with h1 | ⟨y, _, h2⟩
    · exact ⟨x, List.mem_cons_self, h1⟩
    · rcases bind_error h2 with h3 | ⟨ys, _, h4⟩
      · obtain ⟨a, ha, hf⟩ := mapM_error h3
        exact ⟨a, List.mem_cons_of_mem _ ha, hf⟩
      · cases h4

theorem foldlM_error {α β ε} {f : β → α → Except ε β} :
    ∀ {l : List α} {b : β} {e : ε}, l.foldlM f b = .error e → ∃ b' a, a ∈ l ∧ f b' a = .error e
  | [], b, e, h => by cases h
  | x :: xs, b, e, h => by
    rw [List.foldlM_cons] at h
    rcases bind_error h with h1 | ⟨y, _, h2⟩
    · exact ⟨b, x, List.mem_cons_self, h1⟩
    · obtain ⟨b', a, ha, hf⟩ := foldlM_error h2
      exact ⟨b', a, List.mem_cons_of_mem _ ha, hf⟩

/-- the shape of every fold of `build_database`: each successful step appends one `x` made from the input element
    (`S a x`) and admitted against everything accumulated so far (`R y x`) -/
theorem foldlM_append {α β ε} {f : List β → α → Except ε (List β)} {S : α → β → Prop} {R : β → β → Prop}
    (hstep : ∀ acc a acc', f acc a = .ok acc' → ∃ x, acc' = acc ++ [x] ∧ S a x ∧ ∀ y ∈ acc, R y x) :
    ∀ {l : List α} {acc acc' : List β}, l.foldlM f acc = .ok acc' → acc.Pairwise R →
      ∃ xs, acc' = acc ++ xs ∧ acc'.Pairwise R ∧ Each S l xs
  | [], acc, acc', h, hp => by cases h; exact ⟨[], by simp, hp, .nil⟩
  | a :: l, acc, acc', h, hp => by
    rw [List.foldlM_cons] at h
    obtain ⟨acc1, h1, h⟩ := bind_ok h
    obtain ⟨x, rfl, hS, hR⟩ := hstep _ _ _ h1
    have hp1 : (acc ++ [x]).Pairwise R :=
      List.pairwise_append.mpr ⟨hp, List.pairwise_singleton R x, fun y hy b hb => List.mem_singleton.mp hb ▸ hR y hy⟩
    obtain ⟨xs, rfl, hp', he⟩ := foldlM_append hstep h hp1
    exact ⟨x :: xs, by simp, hp', .cons hS he⟩

theorem foldlM_append_nil {α β ε} {f : List β → α → Except ε (List β)} {S : α → β → Prop} {R : β → β → Prop}
    {l : List α} {r : List β} (h : l.foldlM f [] = .ok r)
    (hstep : ∀ acc a acc', f acc a = .ok acc' → ∃ x, acc' = acc ++ [x] ∧ S a x ∧ ∀ y ∈ acc, R y x) :
    r.Pairwise R ∧ Each S l r := by
  obtain ⟨xs, rfl, hp, he⟩ := foldlM_append hstep h List.Pairwise.nil
  exact ⟨hp, he⟩

/-- the same shape run forwards -/
theorem foldlM_extend {α β γ ε} {step : List γ → β → Except ε (List γ)} {f : α → β} {g : α → γ} {R : α → α → Prop}
    {P : α → Prop}
    (hstep : ∀ done x, (∀ u ∈ done, R u x) → P x → step (done.map g) (f x) = .ok ((done ++ [x]).map g)) :
    ∀ (todo done : List α), (done ++ todo).Pairwise R → (∀ x ∈ todo, P x) →
      (todo.map f).foldlM step (done.map g) = .ok ((done ++ todo).map g)
  | [], done, _, _ => by simp [pure, Except.pure]
  | x :: r, done, hp, hP => by
    have hd : ∀ u ∈ done, R u x := fun u hu => (List.pairwise_append.mp hp).2.2 u hu x List.mem_cons_self
    rw [List.map_cons, List.foldlM_cons, hstep done x hd (hP x List.mem_cons_self)]
    have := foldlM_extend hstep r (done ++ [x]) (by simpa using hp) (fun q hq => hP q (List.mem_cons_of_mem _ hq))
    simpa [bind, Except.bind] using this

end Exc

namespace C08

def IsOk {ε α} (x : Except ε α) : Prop := ∃ a, x = .ok a

theorem IsOk.pure {ε α} (a : α) : IsOk (pure a : Except ε α) := ⟨a, rfl⟩

theorem IsOk.bind {ε α β} {x : Except ε α} {f : α → Except ε β} (hx : IsOk x)
    (hf : ∀ a, x = .ok a → IsOk (f a)) : IsOk (x >>= f) := by
  obtain ⟨a, ha⟩ := hx
  obtain ⟨b, hb⟩ := hf a ha
  subst ha
  exact ⟨b, hb⟩

theorem IsOk.mapM {α β ε} (f : α → Except ε β) :
    ∀ (l : List α), (∀ a ∈ l, IsOk (f a)) → IsOk (l.mapM f) := by
  intro l
  induction l with
  | nil => intro _; exact ⟨[], by simp [List.mapM_nil, Pure.pure, Except.pure]⟩
  | cons x xs ih =>
    intro h
    obtain ⟨b, hb⟩ := h x (by simp)
    obtain ⟨r, hr⟩ := ih (fun a ha => h a (by simp [ha]))
    exact ⟨b :: r, by rw [List.mapM_cons, hb, hr]; rfl⟩

theorem IsOk.bind_pure {ε α β} {x : Except ε α} (g : α → β) (hx : IsOk x) :
    IsOk (x >>= fun a => Pure.pure (g a)) :=
  hx.bind fun _ _ => .pure _

theorem IsOk.bind_of_eq {ε α β} {x : Except ε α} {f : α → Except ε β} {a : α} (hx : x = .ok a)
    (hf : IsOk (f a)) : IsOk (x >>= f) :=
  hx ▸ hf

end C08

namespace Exc

theorem getD?_isOk {α} (l : List α) (i : Nat) (why : String) (h : i < l.length) : C08.IsOk (getD? l i why) :=
  ⟨l[i], by simp [getD?, List.getElem?_eq_getElem h]⟩

theorem mapM_getD?_isOk {α β} (l : List α) (why : String) (k : α → β) (is : List Nat) (h : ∀ i ∈ is, i < l.length) :
    C08.IsOk (is.mapM fun i => do let a ← getD? l i why; pure (k a)) :=
  .mapM _ _ fun i hi => .bind_pure _ (getD?_isOk _ _ _ (h i hi))

theorem getD?_of_some {α} (l : List α) (i : Nat) (why : String) (a : α) (h : l[i]? = some a) :
    getD? l i why = .ok a := by
  simp [getD?, h]

theorem getD?_mem {α} {l : List α} {i : Nat} {why : String} {a : α} (h : getD? l i why = .ok a) : a ∈ l := by
  unfold getD? at h
  split at h <;> cases h
  exact List.mem_of_getElem? ‹_›

theorem getD?_map {α β} (f : α → β) (l : List α) (i : Nat) (why : String) :
    getD? (l.map f) i why = (getD? l i why).map f := by
  unfold getD?
  simp only [List.getElem?_map]
  cases l[i]? <;> rfl

end Exc

namespace C02

/-- the renderers walk over the positions of a list (`cs.map f` here); that is a `mapM` over the source items.  The three
    variants below: the list itself (`f = id`), and each of the two with every step succeeding (`.ok (map h)`). -/
theorem range_mapM_pos {σ α β} (f : σ → α) (why : String) : ∀ (cs : List σ) (g : Nat → α → R β) (g' : σ → R β),
    (∀ i s, cs[i]? = some s → g i (f s) = g' s) →
    (List.range (cs.map f).length).mapM (fun i => do let x ← getD? (cs.map f) i why; g i x) = cs.mapM g'
  | [], _, _, _ => rfl
  | s :: r, g, g', hg => by
    have hs : (fun i => getD? (f s :: r.map f) i why >>= fun y => g i y) ∘ Nat.succ
        = fun i => getD? (r.map f) i why >>= fun y => g (i + 1) y := by
      funext i; simp [getD?, Function.comp]
    have h0 : (getD? (f s :: r.map f) 0 why >>= fun y => g 0 y) = g' s := by
      simpa [getD?, bind, Except.bind] using hg 0 s (by simp)
    rw [List.map_cons, List.length_cons, List.range_succ_eq_map, List.mapM_cons, List.mapM_map, hs,
      range_mapM_pos f why r (fun i => g (i + 1)) g' (fun i t ht => hg (i + 1) t (by simpa using ht)), h0, List.mapM_cons]

theorem range_mapM_getD_idx {α β} (l : List α) (why : String) (g : Nat → α → R β) (g' : α → R β)
    (h : ∀ i, ∀ x ∈ l, g i x = g' x) :
    (List.range l.length).mapM (fun i => do let x ← getD? l i why; g i x) = l.mapM g' := by
  simpa using range_mapM_pos id why l g g' (fun i x hx => h i x (List.mem_of_getElem? hx))

theorem range_mapM_form_pos {σ α β} (f : σ → α) (why : String) (h : σ → β) (cs : List σ) (g : Nat → α → R β)
    (hg : ∀ i s, cs[i]? = some s → g i (f s) = .ok (h s)) :
    (List.range (cs.map f).length).mapM (fun i => do let x ← getD? (cs.map f) i why; g i x) = .ok (cs.map h) :=
  (range_mapM_pos f why cs g (fun s => .ok (h s)) hg).trans (mapM_ok_map_mem _ h cs fun _ _ => rfl)

theorem range_mapM_mem {α β} (l : List α) (why : String) (g : Nat → α → R β) (h : α → β)
    (hg : ∀ i, ∀ x ∈ l, g i x = .ok (h x)) :
    (List.range l.length).mapM (fun i => do let x ← getD? l i why; g i x) = .ok (l.map h) := by
  rw [range_mapM_getD_idx l why g (fun x => Except.ok (h x)) hg]
  exact mapM_ok_map_mem _ _ l fun _ _ => rfl

end C02
end PyDBML
