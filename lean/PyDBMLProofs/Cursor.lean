/-
How `advance`, `skipWs` and `curAfter` move the cursor of `Lex.lean`: what is left of the text, and that the
past-end flag is not touched; where the white-space skip stops (before a character that is none, after `n` blanks).
The facts stand in the namespaces C13, C07 and C02, under the names their users call them by.
-/
import PyDBMLModel
namespace PyDBML
open Lex

namespace C13

theorem advance_rest (c : Cur) (n : Nat) : (advance c n).rest = c.rest.drop n := by
  fun_induction advance c n <;> simp_all

theorem advance_pastEnd (c : Cur) (n : Nat) : (advance c n).pastEnd = c.pastEnd := by
  fun_induction advance c n <;> simp_all

theorem curAfter_rest (c : Cur) (pre rest : Str) (h : c.rest = pre ++ rest) : (curAfter c rest).rest = rest := by
  unfold curAfter
  rw [advance_rest, h]
  simp

theorem curAfter_pastEnd (c : Cur) (rest : Str) : (curAfter c rest).pastEnd = c.pastEnd := advance_pastEnd c _

end C13

namespace C07

theorem advance_suffix (c : Cur) (n : Nat) : (advance c n).rest <:+ c.rest := by
  rw [C13.advance_rest]
  exact List.drop_suffix n c.rest

theorem skipWsList_suffix (p : Option Char) (s : Str) : (skipWsList p s).2 <:+ s := by
  induction s generalizing p with
  | nil => simp [skipWsList]
  | cons x r ih =>
    unfold skipWsList
    split
    · exact (ih (some x)).trans (List.suffix_cons x r)
    · exact List.suffix_refl _

theorem skipWs_suffix (c : Cur) : (skipWs c).rest <:+ c.rest := by
  unfold skipWs
  exact skipWsList_suffix _ _

end C07

namespace C02

@[simp] theorem skipWs_pastEnd (c : Cur) : (skipWs c).pastEnd = c.pastEnd := rfl

theorem skipWsList_head (p : Option Char) (x : Char) (r : Str) (hx : isWs x = false) :
    skipWsList p (x :: r) = (p, x :: r) := by
  simp [skipWsList, hx]

theorem skipWsList_spaces (p : Option Char) (n : Nat) (x : Char) (r : Str) (hx : isWs x = false) :
    (skipWsList p (List.replicate n ' ' ++ x :: r)).2 = x :: r := by
  induction n generalizing p with
  | zero => simp [skipWsList_head p x r hx]
  | succ n ih =>
    simp only [List.replicate_succ, List.cons_append]
    rw [skipWsList]
    simp only [isWs, decide_true, Bool.true_or, ↓reduceIte]
    exact ih _

theorem skipWs_rest_spaces (c : Cur) (n : Nat) (x : Char) (r : Str) (h : c.rest = List.replicate n ' ' ++ x :: r)
    (hx : isWs x = false) : (skipWs c).rest = x :: r := by
  unfold skipWs
  simp only [h]
  exact skipWsList_spaces _ n x r hx

theorem skipWs_eq_of_head (c : Cur) (x : Char) (r : Str) (h : c.rest = x :: r) (hx : isWs x = false) : skipWs c = c := by
  cases c with
  | mk p rs pe =>
    simp only at h
    subst h
    simp [skipWs, skipWsList_head p x r hx]

theorem skipWs_rest_head (c : Cur) (x : Char) (r : Str) (h : c.rest = x :: r) (hx : isWs x = false) :
    (skipWs c).rest = x :: r := by rw [skipWs_eq_of_head c x r h hx]; exact h

theorem skipWs_prev_head (c : Cur) (x : Char) (r : Str) (h : c.rest = x :: r) (hx : isWs x = false) :
    (skipWs c).prev = c.prev := by rw [skipWs_eq_of_head c x r h hx]

theorem skipWs_rest_nil (c : Cur) (h : c.rest = []) : (skipWs c).rest = [] := by
  unfold skipWs; simp [h, skipWsList]

theorem skipWsList_idem (p : Option Char) (s : Str) :
    skipWsList (skipWsList p s).1 (skipWsList p s).2 = skipWsList p s := by
  induction s generalizing p with
  | nil => simp [skipWsList]
  | cons x r ih =>
    by_cases hx : isWs x = true
    · rw [skipWsList]; simp only [hx, ↓reduceIte]; exact ih _
    · have hx' : isWs x = false := by simpa using hx
      rw [skipWsList_head p x r hx', skipWsList_head p x r hx']

theorem skipWs_idem (c : Cur) : skipWs (skipWs c) = skipWs c := by
  unfold skipWs
  simp only
  have := skipWsList_idem c.prev c.rest
  rw [this]

theorem skipWs_len (c : Cur) : (skipWs c).rest.length ≤ c.rest.length := (C07.skipWs_suffix c).length_le

theorem advance_one_prev (c : Cur) (x : Char) (r : Str) (h : c.rest = x :: r) : (advance c 1).prev = some x := by
  unfold advance
  simp only [h]
  unfold advance
  rfl

theorem skipWsList_spaces_prev (p : Option Char) (n : Nat) (x : Char) (r : Str) (hx : isWs x = false) :
    (skipWsList p (List.replicate (n + 1) ' ' ++ x :: r)).1 = some ' ' := by
  induction n generalizing p with
  | zero =>
    rw [List.replicate_one, List.singleton_append, skipWsList]
    simp only [isWs, decide_true, Bool.true_or, ↓reduceIte, skipWsList_head _ x r hx]
  | succ n ih =>
    rw [List.replicate_succ, List.cons_append, skipWsList]
    simp only [isWs, decide_true, Bool.true_or, ↓reduceIte]
    exact ih _

end C02
end PyDBML
