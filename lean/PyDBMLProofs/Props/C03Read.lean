/-
C03 — "the SQL DDL states exactly the model", as an inversion: a READER of the DDL (`PyDBMLModel/SqlRead.lean`,
independent of the renderer: it only looks at the text) recovers from the rendered text exactly the model's values.
Columns and tables of the class `Readable` here, through the writers `ColDesc.line`, `TabDesc.lines` (the idea:
C03Base.lean); then scripts (`Renders`, `renders_db`).
-/
import PyDBMLModel
import PyDBMLProofs.Props.C03Base
import PyDBMLProofs.Props.C18Order
namespace PyDBML
namespace C03
open Sql
open C04 (quoteN)

/-- what the model says about a column, given whether its table has a composite primary key -/
def descOf (ty : Str) (cpk : Bool) (c : Column) : ColDesc :=
  { name := c.name, type := ty, pk := c.pk && !cpk, autoinc := c.autoinc, unique := c.unique, notNull := c.notNull,
    default := c.default.map defaultSql }

def dfltTail : Option Str → Str
  | some t => [' ', 'D', 'E', 'F', 'A', 'U', 'L', 'T', ' '] ++ t
  | none => []

/-- the keywords are spelt as `readColumn` spells them -/
def flagsTail (pk ai uq nn : Bool) (d : Option Str) : Str :=
  optKw pk [' ', 'P', 'R', 'I', 'M', 'A', 'R', 'Y', ' ', 'K', 'E', 'Y'] ++
  (optKw ai [' ', 'A', 'U', 'T', 'O', 'I', 'N', 'C', 'R', 'E', 'M', 'E', 'N', 'T'] ++
  (optKw uq [' ', 'U', 'N', 'I', 'Q', 'U', 'E'] ++ (optKw nn [' ', 'N', 'O', 'T', ' ', 'N', 'U', 'L', 'L'] ++ dfltTail d)))

def ColDesc.line (d : ColDesc) : Str :=
  '"' :: (d.name ++ '"' :: ' ' :: (d.type ++ flagsTail d.pk d.autoinc d.unique d.notNull d.default))

theorem tag_dflt_ne {c : Char} (d : Option Str) (h : 'D' ≠ c) : tag (dfltTail d) ≠ some c := by
  cases d
  · simp [dfltTail, tag]
  · simpa [dfltTail, tag] using h

theorem flagsTail_head {ty : Str} (pk ai uq nn : Bool) (d : Option Str) (h : ' ' ∉ ty) :
    (ty ++ flagsTail pk ai uq nn d).dropWhile (· != ' ') = flagsTail pk ai uq nn d
    ∧ (ty ++ flagsTail pk ai uq nn d).takeWhile (· != ' ') = ty :=
  span_at h (head_optKw pk rfl (head_optKw ai rfl (head_optKw uq rfl (head_optKw nn rfl (by cases d <;> simp [dfltTail])))))

theorem readColumn_line (d : ColDesc) (hn : '"' ∉ d.name) (ht : ' ' ∉ d.type) : readColumn d.line = some d := by
  obtain ⟨name, ty, pk, ai, uq, nn, df⟩ := d
  unfold readColumn ColDesc.line
  simp only [span_until hn, flagsTail_head pk ai uq nn df ht]
  unfold flagsTail
  -- what follows the place of a keyword is empty or begins with a blank and the letter of a later keyword
  simp only [
    stripKw_optKw _ 'P' _ _ _ (tag_optKw_ne (x := 'A') ai (by decide) (tag_optKw_ne (x := 'U') uq (by decide)
      (tag_optKw_ne (x := 'N') nn (by decide) (tag_dflt_ne df (by decide))))),
    stripKw_optKw _ 'A' _ _ _ (tag_optKw_ne (x := 'U') uq (by decide) (tag_optKw_ne (x := 'N') nn (by decide)
      (tag_dflt_ne df (by decide)))),
    stripKw_optKw _ 'U' _ _ _ (tag_optKw_ne (x := 'N') nn (by decide) (tag_dflt_ne df (by decide))),
    stripKw_optKw _ 'N' _ _ _ (tag_dflt_ne df (by decide))]
  cases df <;> rfl

theorem flatMap_optWord (b : Bool) (w : Str) : (if b then [w] else []).flatMap (' ' :: ·) = optKw b (' ' :: w) := by
  cases b <;> simp [optKw]

theorem renderColumn_line (db : Db) (cpk : Bool) (c : Column) (ty : Str) (hty : typeText db c = .ok ty)
    (hcm : c.comment = none) : renderColumn db cpk c = .ok (descOf ty cpk c).line := by
  unfold renderColumn
  repeat rw [lit_eq rfl]
  simp only [hty, bind, Except.bind, pure, Except.pure, hcm, List.nil_append, List.cons_append, joinWith_eq_flatMap,
    List.flatMap_append, List.flatMap_cons, flatMap_optWord, List.append_assoc]
  split <;> rename_i hd <;>
    simp only [descOf, ColDesc.line, flagsTail, dfltTail, hd, Option.map, List.flatMap_cons, List.flatMap_nil, List.append_nil,
      List.cons_append, List.nil_append]

/-- **the reader inverts the column renderer** for a column without comment whose name has no double quote and whose
    type text has no blank: name, type text, the four flags (PRIMARY KEY unless the table's key is composite) and the
    default as rendered -/
theorem read_render_column (db : Db) (cpk : Bool) (c : Column) (ty : Str) (hty : typeText db c = .ok ty)
    (hname : '"' ∉ c.name) (htb : ' ' ∉ ty) (hcm : c.comment = none) :
    ∃ line, renderColumn db cpk c = .ok line ∧ readColumn line = some (descOf ty cpk c) :=
  ⟨_, renderColumn_line db cpk c ty hty hcm, readColumn_line _ hname htb⟩

/-- the keyword is there exactly when the flag is set - `DEFAULT` also for the empty string -/
example : readColumn (lit "\"n\" int NOT NULL DEFAULT 0") = some ⟨lit "n", lit "int", false, false, false, true, some (lit "0")⟩
    ∧ readColumn (lit "\"n\" int DEFAULT ") = some ⟨lit "n", lit "int", false, false, false, false, some []⟩
    ∧ readColumn (lit "\"id\" int PRIMARY KEY AUTOINCREMENT UNIQUE") = some ⟨lit "id", lit "int", true, true, true, false, none⟩
    ∧ readColumn (lit "\"id\" int KEY") = none := by
  repeat rw [lit_eq rfl]
  decide +kernel

/-- lines joined by `,\n`: every line but the last gets a comma -/
def commaLines : List Str → List Str
  | [] => []
  | [l] => [l]
  | l :: l2 :: ls => (l ++ [',']) :: commaLines (l2 :: ls)

theorem commaLines_cons (l : Str) (ls : List Str) (h : ls ≠ []) : commaLines (l :: ls) = (l ++ [',']) :: commaLines ls := by
  cases ls with
  | nil => exact absurd rfl h
  | cons _ _ => rfl

theorem commaLines_ne : ∀ (ls : List Str), ls ≠ [] → commaLines ls ≠ []
  | [], h => absurd rfl h
  | [_], _ => by simp [commaLines]
  | _ :: _ :: _, _ => by simp [commaLines]

theorem joinWith_commaNL : ∀ (ls : List Str), joinWith (lit ",\n") ls = joinNL (commaLines ls)
  | [] => rfl
  | [_] => rfl
  | l :: l2 :: r => by
    rw [joinWith_cons _ _ _ (by simp), joinWith_commaNL (l2 :: r), commaLines_cons l (l2 :: r) (by simp),
      joinNL_cons _ _ (commaLines_ne (l2 :: r) (by simp)), lit_eq rfl]
    simp

theorem forall_mem_commaLines {P : Str → Prop} : ∀ (ls : List Str), (∀ l ∈ ls, P l ∧ P (l ++ [','])) → ∀ x ∈ commaLines ls, P x
  | [], _ => by simp [commaLines]
  | [l], h => by simpa [commaLines] using (h l (by simp)).1
  | l :: l2 :: r, h => by
    rw [commaLines_cons _ _ (by simp), List.forall_mem_cons]
    exact ⟨(h l (by simp)).2, forall_mem_commaLines (l2 :: r) (fun x hx => h x (by simp [hx]))⟩

/-- the table-level key clause, cut as the reader cuts it -/
def pkLine (names : List Str) : Str := ' ' :: ' ' :: (lit "PRIMARY KEY (" ++ (joinWith (lit ", ") (names.map quoteN) ++ [')']))

theorem pkLine_eq (names : List Str) :
    lit "  PRIMARY KEY (" ++ joinWith (lit ", ") (names.map quoteN) ++ [')'] = pkLine names := by
  rw [pkLine, lit_eq (s := "  PRIMARY KEY (") rfl, lit_eq (s := "PRIMARY KEY (") rfl, List.append_assoc]
  rfl

def TabDesc.lines (d : TabDesc) : List Str :=
  (lit "CREATE TABLE " ++ d.qname ++ lit " (") ::
    (commaLines (d.cols.map (fun c => ' ' :: ' ' :: c.line) ++ (d.key.map pkLine).toList) ++ [lit ");"])

theorem readBody_pkLine (names : List Str) (hne : names ≠ []) (hq : ∀ n ∈ names, '"' ∉ n) :
    readBody [pkLine names] = some ([], some names) := by
  simp only [pkLine, readBody, stripKw_append]
  rw [(C04.readNames_both [] names _ hne (by have := C04.joinNames_length names; simp only [List.length_append]; omega) hq).2]
  rfl

theorem readBody_cons2 (r l2 : Str) (ls : List Str) :
    readBody ((' ' :: ' ' :: r) :: l2 :: ls)
      = if r.getLast? = some ',' then
          match readColumn r.dropLast, readBody (l2 :: ls) with
          | some c, some (cs, k) => some (c :: cs, k)
          | _, _ => none
        else none := rfl

theorem readBody_cons (c : ColDesc) (hn : '"' ∉ c.name) (ht : ' ' ∉ c.type) (L : List Str) (hL : L ≠ [])
    (res : List ColDesc × Option (List Str)) (h : readBody (commaLines L) = some res) :
    readBody (commaLines ((' ' :: ' ' :: c.line) :: L)) = some (c :: res.1, res.2) := by
  obtain ⟨x, xs, hx⟩ := List.exists_cons_of_ne_nil (commaLines_ne L hL)
  rw [commaLines_cons _ _ hL, hx, List.cons_append, List.cons_append, readBody_cons2, if_pos (by simp), List.dropLast_concat,
    readColumn_line c hn ht, ← hx, h]

theorem readBody_lines (k : Option (List Str)) (hk : ∀ ns, k = some ns → ns ≠ [] ∧ ∀ n ∈ ns, '"' ∉ n) :
    ∀ (cs : List ColDesc), cs ≠ [] → (∀ c ∈ cs, '"' ∉ c.name ∧ ' ' ∉ c.type) →
    readBody (commaLines (cs.map (fun c => ' ' :: ' ' :: c.line) ++ (k.map pkLine).toList)) = some (cs, k)
  | [], h, _ => absurd rfl h
  | [c], _, hc => by
    obtain ⟨hn, ht⟩ := hc c (by simp)
    cases k with
    | none =>
      -- a column line begins with a quote: it is not taken for the key clause
      have hs : stripKw (lit "PRIMARY KEY (") c.line = (false, c.line) := by rw [lit_eq rfl]; rfl
      simp only [List.map, Option.map, Option.toList, List.append_nil, commaLines, readBody, hs, readColumn_line c hn ht]
    | some ns =>
      obtain ⟨hne, hq⟩ := hk ns rfl
      exact readBody_cons c hn ht [pkLine ns] (by simp) _ (readBody_pkLine ns hne hq)
  | c :: c2 :: r, _, hc => by
    obtain ⟨hn, ht⟩ := hc c (by simp)
    exact readBody_cons c hn ht _ (by simp) _ (readBody_lines k hk (c2 :: r) (by simp) (fun x hx => hc x (by simp [hx])))

theorem readTableLines_lines (d : TabDesc) (hne : d.cols ≠ []) (hc : ∀ c ∈ d.cols, '"' ∉ c.name ∧ ' ' ∉ c.type)
    (hk : ∀ ns, d.key = some ns → ns ≠ [] ∧ ∀ n ∈ ns, '"' ∉ n) : readTableLines d.lines = some d := by
  unfold readTableLines TabDesc.lines
  simp only [List.append_assoc, stripKw_append]
  rw [lit_eq (s := " (") rfl, if_pos ⟨by simp, by simp, by simp⟩, List.dropLast_concat, readBody_lines d.key hk d.cols hne hc]
  simp

/-- the key clause the renderer adds: none, or the names of the key columns in order -/
def keyOf (cpk : Bool) (cs : List Column) : Option (List Str) :=
  if cpk then some ((cs.filter (·.pk)).map (·.name)) else none

theorem indent2_line (x : Char) (r : Str) (hl : NoBreak (x :: r)) (hsp : isSpaceChar x = false) :
    indent2 (x :: r) = ' ' :: ' ' :: x :: r :=
  C02.textwrapIndent_line _ _ hl (by simp [hsp])

/-- the text of a column's type (for the covered columns `typeText` succeeds) -/
def tyD (db : Db) (c : Column) : Str :=
  match typeText db c with
  | .ok t => t
  | .error _ => []

/-- the tables the reader theorem covers: at least one column, no comment, note or index on the table; no comment or
    note on a column; every column's type has a text; no line break in any text; no double quote in a column name; no
    blank in a type text.  Any primary-key layout: none, one column, several columns. -/
structure Readable (db : Db) (t : Table) : Prop where
  cols : t.columns ≠ []
  comment : t.comment = none
  indexes : t.indexes = []
  note : t.note = []
  names : NoBreak t.schema ∧ NoBreak t.name
  colPlain : ∀ c ∈ t.columns, c.comment = none ∧ c.note = []
  colType : ∀ c ∈ t.columns, typeText db c = .ok (tyD db c)
  colRead : ∀ c ∈ t.columns, '"' ∉ c.name ∧ ' ' ∉ tyD db c
  colLines : ∀ c ∈ t.columns, NoBreak c.name ∧ NoBreak (tyD db c) ∧ ∀ d, c.default = some d → NoBreak (defaultSql d)

def ReadableIx (db : Db) (t : Table) : Prop := Readable db { t with indexes := [] } ∧ ∀ ix ∈ t.indexes, ix.pk = false

theorem Readable.ix {db : Db} {t : Table} (h : Readable db t) : ReadableIx db t := by
  have e : { t with indexes := [] } = t := by cases t; simp only [Table.mk.injEq, true_and]; exact ⟨h.indexes.symm, trivial⟩ 
  exact ⟨e ▸ h, by simp [h.indexes]⟩

def tabDescOf (db : Db) (t : Table) : TabDesc :=
  { qname := qualName t.schema t.name,
    cols := t.columns.map fun c => descOf (tyD db c) (hasCompositePk t) c,
    key := keyOf (hasCompositePk t) t.columns }

theorem ColDesc.line_noBreak (d : ColDesc) (hn : NoBreak d.name) (ht : NoBreak d.type) (hd : ∀ t, d.default = some t → NoBreak t) :
    NoBreak d.line := by
  have h5 : NoBreak (dfltTail d.default) := by
    cases hdf : d.default with
    | none => exact fun _ h => nomatch h
    | some t => exact List.forall_mem_append.mpr ⟨by decide, hd t hdf⟩
  simp only [ColDesc.line, flagsTail, NoBreak, List.forall_mem_cons, List.forall_mem_append]
  exact ⟨by decide, hn, by decide, by decide, ht, noBreak_optKw _ (by decide), noBreak_optKw _ (by decide),
    noBreak_optKw _ (by decide), noBreak_optKw _ (by decide), h5⟩

theorem pkLine_noBreak (names : List Str) (hn : ∀ n ∈ names, NoBreak n) : NoBreak (pkLine names) := by
  have hj : NoBreak (joinWith (lit ", ") (names.map quoteN)) := by
    refine forall_mem_joinWith (P := fun c => isLineBreak c = false) (by rw [lit_eq rfl]; decide) _ ?_
    simp only [List.forall_mem_map, quoteN, List.forall_mem_cons, List.forall_mem_append]
    exact fun n h => ⟨⟨by decide, hn n h⟩, by decide⟩
  simp only [pkLine, NoBreak, List.forall_mem_cons, List.forall_mem_append]
  exact ⟨by decide, by decide, by rw [lit_eq rfl]; decide, hj, by decide⟩

theorem TabDesc.lines_block (d : TabDesc) (hq : NoBreak d.qname) (hc : ∀ c ∈ d.cols, NoBreak c.line)
    (hk : ∀ ns, d.key = some ns → ∀ n ∈ ns, NoBreak n) : Block d.lines := by
  refine ⟨by simp [TabDesc.lines], ?_⟩
  simp only [TabDesc.lines, List.forall_mem_cons, List.forall_mem_append]
  refine ⟨line_of_noBreak (by rw [lit_eq rfl]; simp) ?_, forall_mem_commaLines _ ?_, close_line, fun _ h => nomatch h⟩
  · exact List.forall_mem_append.mpr ⟨List.forall_mem_append.mpr ⟨by rw [lit_eq rfl]; decide, hq⟩, by rw [lit_eq rfl]; decide⟩
  · have hcomma : ∀ {l : Str}, l ≠ [] → NoBreak l → (l ≠ [] ∧ '\n' ∉ l) ∧ (l ++ [','] ≠ [] ∧ '\n' ∉ l ++ [',']) := fun h1 h2 =>
      ⟨line_of_noBreak h1 h2, line_of_noBreak (by simp) (by simp +decide only [NoBreak, List.forall_mem_append, and_true]; exact h2)⟩
    simp only [List.forall_mem_append, List.forall_mem_map]
    refine ⟨fun c hcm => hcomma (by simp) ?_, ?_⟩
    · simp +decide only [NoBreak, List.forall_mem_cons, true_and]
      exact hc c hcm
    · cases hkey : d.key with
      | none => exact fun _ h => nomatch h
      | some ns =>
        simp only [Option.map, Option.toList, List.forall_mem_cons]
        exact ⟨hcomma (List.cons_ne_nil _ _) (pkLine_noBreak ns (hk ns hkey)), fun _ h => nomatch h⟩

theorem Readable.col_noBreak {db : Db} {t : Table} (h : Readable db t) (cpk : Bool) (c : Column) (hc : c ∈ t.columns) :
    NoBreak (descOf (tyD db c) cpk c).line := by
  obtain ⟨h1, h2, h3⟩ := h.colLines c hc
  refine ColDesc.line_noBreak _ h1 h2 fun x hx => ?_
  cases hd : c.default with
  | none => simp [descOf, hd] at hx
  | some dv => simp only [descOf, hd, Option.map, Option.some.injEq] at hx; exact hx ▸ h3 dv hd

theorem Readable.tabDesc {db : Db} {t : Table} (h : Readable db t) :
    Block (tabDescOf db t).lines ∧ readTableLines (tabDescOf db t).lines = some (tabDescOf db t) := by
  have hkey : ∀ ns, keyOf (hasCompositePk t) t.columns = some ns →
      ns ≠ [] ∧ ∀ n ∈ ns, ∃ c ∈ t.columns, n = c.name := by
    intro ns hk
    unfold keyOf at hk
    split at hk
    · rename_i hc
      cases hk
      refine ⟨fun he => ?_, fun n hn => ?_⟩
      · simp [hasCompositePk, List.map_eq_nil_iff.mp he] at hc
      · obtain ⟨c, hc', rfl⟩ := List.mem_map.mp hn
        exact ⟨c, (List.mem_filter.mp hc').1, rfl⟩
    · cases hk
  constructor
  · refine TabDesc.lines_block _ (qualName_noBreak h.names.1 h.names.2) ?_ ?_
    · simp only [tabDescOf, List.forall_mem_map]
      exact h.col_noBreak _
    · intro ns hk n hn
      obtain ⟨c, hc, rfl⟩ := (hkey ns hk).2 n hn
      exact (h.colLines c hc).1
  · refine readTableLines_lines _ (by simpa [tabDescOf] using h.cols) ?_ ?_
    · simp only [tabDescOf, List.forall_mem_map]
      exact h.colRead
    · intro ns hk
      refine ⟨(hkey ns hk).1, fun n hn => ?_⟩
      obtain ⟨c, hc, rfl⟩ := (hkey ns hk).2 n hn
      exact (h.colRead c hc).1

/-- `render_table` appends each non-pk index after an empty line -/
theorem renderTable_text (db : Db) (t : Table) (h : ReadableIx db t) (L : Index → Str)
    (hix : ∀ ix ∈ t.indexes, renderIndex t ix = .ok (L ix)) :
    renderTableWith db t [] = .ok (joinNL (tabDescOf db t).lines ++ (t.indexes.map L).flatMap (lit "\n\n" ++ ·)) := by
  obtain ⟨h, hpk⟩ := h
  have hcols : (t.columns.mapM fun c => do pure (indent2 (← renderColumn db (hasCompositePk t) c)))
      = .ok ((tabDescOf db t).cols.map fun c => ' ' :: ' ' :: c.line) := by
    rw [tabDescOf, List.map_map]
    apply mapM_ok_map_mem
    intro c hc
    rw [renderColumn_line db _ c (tyD db c) (h.colType c hc) (h.colPlain c hc).1]
    simp only [bind, Except.bind, pure, Except.pure]
    exact congrArg Except.ok (indent2_line '"' _ (h.col_noBreak _ c hc) (by decide))
  have hcomp : (if hasCompositePk t then
        [lit "  PRIMARY KEY (" ++ joinWith (lit ", ") ((t.columns.filter (·.pk)).map fun c => '"' :: c.name ++ ['"']) ++ [')']]
      else []) = ((tabDescOf db t).key.map pkLine).toList := by
    cases hc : hasCompositePk t
    · simp [tabDescOf, keyOf, hc]
    · simp only [tabDescOf, keyOf, hc, ↓reduceIte, Option.map, Option.toList, List.map_map, ← pkLine_eq]
      rfl
  have hf1 : t.indexes.filter (·.pk) = [] := List.filter_eq_nil_iff.mpr fun ix hi => by simp [hpk ix hi]
  have hf2 : t.indexes.filter (!·.pk) = t.indexes := List.filter_eq_self.mpr fun ix hi => by simp [hpk ix hi]
  have hnotes : (t.columns.filter (!·.note.isEmpty)) = [] := List.filter_eq_nil_iff.mpr fun c hc => by
    simp [(h.colPlain c hc).2]
  have hnp : (t.indexes.mapM fun i => do pure ('\n' :: (← renderIndex t i))) = .ok ((t.indexes.map L).map ('\n' :: ·)) := by
    rw [List.map_map]
    exact mapM_ok_map_mem _ _ _ fun ix hi => by rw [hix ix hi]; rfl
  have hcm : t.comment = none := h.comment
  have hnote : t.note = [] := h.note
  have hbody : createBody db t [] = .ok (joinNL (commaLines
      (((tabDescOf db t).cols.map fun c => ' ' :: ' ' :: c.line) ++ ((tabDescOf db t).key.map pkLine).toList))) := by
    unfold createBody
    simp only [bind, Except.bind, pure, Except.pure] at hcols
    simp only [bind, Except.bind, pure, Except.pure, hcols, hf1, List.mapM_nil, List.map_nil, List.append_nil, hcomp,
      joinWith_commaNL]
  unfold renderTableWith
  simp only [bind, Except.bind, pure, Except.pure] at hnp
  simp only [hbody, bind, Except.bind, pure, Except.pure, hf2, hnp, hcm, hnote, hnotes, List.flatMap_nil, List.append_nil,
    List.nil_append, List.isEmpty_nil, ↓reduceIte, List.cons_append]
  have hne : t.columns ≠ [] := h.cols
  refine congrArg Except.ok (joinNL_statement _ _ _ _ (commaLines_ne _ ?_))
  simp [tabDescOf, hne]

theorem renderTable_lines (db : Db) (t : Table) (h : Readable db t) :
    renderTableWith db t [] = .ok (joinNL (tabDescOf db t).lines) := by
  simpa [h.indexes] using renderTable_text db t h.ix (fun _ => []) (by simp [h.indexes])

/-- **the reader inverts the table renderer**: from the statement of a covered table, rendered without inline
    references (`renderTableWith db t []`), the reader recovers the name as qualified by `get_full_name_for_sql` and
    every column in order with its type text and settings: DEFAULT whenever one is set (also 0, false, the empty
    string), PRIMARY KEY on the column exactly when it is the only key column, ONE table-level clause naming the key
    columns in order exactly when there are several - and no other column. -/
theorem read_render_table (db : Db) (t : Table) (h : Readable db t) :
    ∃ text, renderTableWith db t [] = .ok text ∧ readTable text = some (tabDescOf db t) := by
  obtain ⟨hB, hr⟩ := h.tabDesc
  refine ⟨_, renderTable_lines db t h, ?_⟩
  rw [readTable, C14.splitNL_joinNL _ hB.1 (fun l hl => (hB.2 l hl).2), hr]

/-- what is read determines what was rendered: two covered tables with the same DDL agree on name, columns (setting
    by setting) and key -/
theorem same_ddl_same_content (db : Db) (t1 t2 : Table) (h1 : Readable db t1) (h2 : Readable db t2)
    (h : renderTableWith db t1 [] = renderTableWith db t2 []) : tabDescOf db t1 = tabDescOf db t2 := by
  obtain ⟨x1, hr1, hd1⟩ := read_render_table db t1 h1
  obtain ⟨x2, hr2, hd2⟩ := read_render_table db t2 h2
  rw [hr1, hr2] at h
  cases h
  exact Option.some.inj (hd1.symm.trans hd2)

/-! Scripts.  Every element of a database - an enum, a table with its indexes, a reference - renders to a small script
of its own, and the script of the database is these joined.  The script readers differ in the block reader only. -/

section
variable {σ : Type} (rd : List Str → Option σ)

/-- the rendering succeeds with a script of at least one statement, block by block read as `ss` -/
def Renders (x : R Str) (ss : List σ) : Prop :=
  ∃ Bs : List (List Str), Bs ≠ [] ∧ (∀ B ∈ Bs, Block B) ∧ x = .ok (scriptText Bs) ∧ Bs.mapM rd = some ss

variable {rd}

theorem Renders.read {x : R Str} {ss : List σ} (h : Renders rd x ss) :
    ∃ text, x = .ok text ∧ (splitBlocks (splitNL text)).mapM rd = some ss := by
  obtain ⟨Bs, hne, hB, hx, hr⟩ := h
  exact ⟨_, hx, by rw [splitBlocks_scriptText Bs hne hB, hr]⟩

theorem Renders.single {x : R Str} {B : List Str} {s : σ} (hB : Block B) (hx : x = .ok (joinNL B)) (hr : rd B = some s) :
    Renders rd x [s] :=
  ⟨[B], by simp, by simpa using hB, hx, by simp [hr]⟩

theorem Renders.append {x y : Str} {s1 s2 : List σ} (h1 : Renders rd (.ok x) s1) (h2 : Renders rd (.ok y) s2) :
    Renders rd (.ok (x ++ lit "\n\n" ++ y)) (s1 ++ s2) := by
  obtain ⟨B1, n1, b1, x1, r1⟩ := h1
  obtain ⟨B2, n2, b2, x2, r2⟩ := h2
  cases x1; cases x2
  refine ⟨B1 ++ B2, by simp [n1], fun B hB => (List.mem_append.mp hB).elim (b1 B) (b2 B), ?_,
    by simp [List.mapM_append, r1, r2]⟩
  show _ = Except.ok (joinWith _ ((B1 ++ B2).map joinNL))
  rw [List.map_append, joinWith_append _ _ _ (by simpa using n1) (by simpa using n2)]
  rfl

theorem Renders.append_lines {α} (L : α → Str) (g : α → σ) : ∀ (X : List α) {x : Str} {s : List σ}, Renders rd (.ok x) s →
    (∀ a ∈ X, (L a ≠ [] ∧ '\n' ∉ L a) ∧ rd [L a] = some (g a)) →
    Renders rd (.ok (x ++ (X.map L).flatMap (lit "\n\n" ++ ·))) (s ++ X.map g)
  | [], _, _, h, _ => by simpa using h
  | a :: X, x, s, h, hX => by
    have ha := hX a (by simp)
    have := Renders.append_lines L g X (h.append (Renders.single (B := [L a]) ⟨by simp, by simpa using ha.1⟩ rfl ha.2))
      (fun m hm => hX m (by simp [hm]))
    simpa [joinNL] using this

inductive RendersAll (rd : List Str → Option σ) : List Str → List σ → Prop
  | nil : RendersAll rd [] []
  | cons {x xs s ss} : Renders rd (.ok x) s → RendersAll rd xs ss → RendersAll rd (x :: xs) (s ++ ss)

theorem RendersAll.append {xs ys : List Str} {s1 s2 : List σ} (h1 : RendersAll rd xs s1) (h2 : RendersAll rd ys s2) :
    RendersAll rd (xs ++ ys) (s1 ++ s2) := by
  induction h1 with
  | nil => exact h2
  | cons h _ ih => rw [List.cons_append, List.append_assoc]; exact .cons h ih

theorem RendersAll.join {xs : List Str} {ss : List σ} (h : RendersAll rd xs ss) (hne : xs ≠ []) :
    Renders rd (.ok (joinWith (lit "\n\n") xs)) ss := by
  induction h with
  | nil => exact absurd rfl hne
  | @cons x xs s ss h hs ih =>
    cases hs with
    | nil => simpa [joinWith] using h
    | cons h2 hs2 => rw [joinWith_cons _ _ _ (by simp)]; exact h.append (ih (by simp))

theorem RendersAll.mapM {α} (f : α → R Str) (g : α → List σ) : ∀ (l : List α), (∀ a ∈ l, Renders rd (f a) (g a)) →
    ∃ xs, l.mapM f = .ok xs ∧ RendersAll rd xs (l.flatMap g) ∧ (l ≠ [] → xs ≠ [])
  | [], _ => ⟨[], rfl, .nil, fun h => absurd rfl h⟩
  | a :: l, h => by
    obtain ⟨Bs, hne, hB, hx, hr⟩ := h a (by simp)
    obtain ⟨xs, hxs, hR, _⟩ := RendersAll.mapM f g l (fun b hb => h b (by simp [hb]))
    exact ⟨scriptText Bs :: xs, by rw [List.mapM_cons, hx, hxs]; rfl, .cons ⟨Bs, hne, hB, rfl, hr⟩ hR, by simp⟩

theorem RendersAll.map {α} (f : α → Str) (g : α → List σ) (l : List α) (h : ∀ a ∈ l, Renders rd (.ok (f a)) (g a)) :
    RendersAll rd (l.map f) (l.flatMap g) := by
  obtain ⟨xs, hxs, hR, _⟩ := RendersAll.mapM (fun a => .ok (f a)) g l h
  rw [mapM_ok_map_mem _ f l (fun _ _ => rfl)] at hxs
  cases hxs
  exact hR

end

/-- without inline references the script lists the tables as declared, none with a reference inside -/
theorem renderDb_no_inline (db : Db) (hinl : ∀ r ∈ db.refs, r.inline = false) :
    renderDb db = (do
      let tables ← db.tables.mapM fun t => renderTableWith db t []
      let refs ← db.refs.mapM (renderRefTop db)
      pure (joinWith (lit "\n\n") (db.enums.map renderEnum ++ tables ++ refs))) := by
  have horder : reorderIdx db.tables db.refs = List.range db.tables.length := by
    apply C18.order_identity_without_hosts
    intro i
    unfold C18.hosted countFor
    cases db.tables[i]? with
    | none => rfl
    | some t => exact List.length_eq_zero_iff.mpr (List.filter_eq_nil_iff.mpr fun r hr => by simp [hostName, hinl r hr])
  have htabs : (List.range db.tables.length).mapM (renderTable db) = db.tables.mapM fun t => renderTableWith db t [] :=
    C02.range_mapM_getD_idx db.tables "table position" (fun i t => do
        let refs ← (inlineRefsFor db i t).mapM (renderInlineRef db)
        renderTableWith db t refs) _ (fun i t _ => by
      have hin : inlineRefsFor db i t = [] := by
        unfold inlineRefsFor
        split
        · rfl
        · exact List.filter_eq_nil_iff.mpr fun r hr => by simp [hinl r hr]
      simp only [hin, List.mapM_nil, bind, Except.bind, pure, Except.pure])
  have hf : db.refs.filter (!·.inline) = db.refs := List.filter_eq_self.mpr fun r hr => by simp [hinl r hr]
  unfold renderDb
  rw [horder, hf]
  exact congrArg (· >>= _) htabs

/-- `hne`: a script has to hold a statement - the empty text is split into empty blocks, which no block reader
    accepts; the readable classes ask for a table -/
theorem renders_db {σ : Type} {rd : List Str → Option σ} (db : Db) (hinl : ∀ r ∈ db.refs, r.inline = false)
    (es : Enum → List σ) (ts : Table → List σ) (fs : Ref → List σ)
    (he : ∀ e ∈ db.enums, Renders rd (.ok (renderEnum e)) (es e))
    (ht : ∀ t ∈ db.tables, Renders rd (renderTableWith db t []) (ts t))
    (hr : ∀ r ∈ db.refs, Renders rd (renderRefTop db r) (fs r)) (hne : db.tables ≠ []) :
    Renders rd (renderDb db) (db.enums.flatMap es ++ db.tables.flatMap ts ++ db.refs.flatMap fs) := by
  obtain ⟨xt, hxt, Rt, nt⟩ := RendersAll.mapM _ ts db.tables ht
  obtain ⟨xr, hxr, Rr, _⟩ := RendersAll.mapM _ fs db.refs hr
  rw [renderDb_no_inline db hinl, hxt, hxr]
  exact (((RendersAll.map _ es db.enums he).append Rt).append Rr).join (by simp [nt hne])

/-- **the reader inverts the script renderer** for databases of covered tables only (no enums, no references): one
    statement per table, in the order of declaration, each read back to what the model says of that table, nothing else -/
theorem read_render_script (db : Db) (hen : db.enums = []) (hrefs : db.refs = []) (hne : db.tables ≠ [])
    (h : ∀ t ∈ db.tables, Readable db t) :
    ∃ text, renderDb db = .ok text ∧ readScript text = some (db.tables.map (tabDescOf db)) := by
  have := (renders_db (rd := readTableLines) db (by simp [hrefs]) (fun _ => []) (fun t => [tabDescOf db t]) (fun _ => [])
    (by simp [hen]) (fun t ht => .single (h t ht).tabDesc.1 (renderTable_lines db t (h t ht)) (h t ht).tabDesc.2)
    (by simp [hrefs]) hne).read
  simpa [hen, hrefs, readScript, ← List.map_eq_flatMap] using this

/-- a covered table with a composite key, a default of 0 and one of the empty string -/
def exTable : Table := { name := lit "t", columns := [
  { name := lit "a", type := .plain (lit "int"), pk := true, notNull := true },
  { name := lit "b", type := .plain (lit "int"), pk := true, default := some (.int (lit "0")) },
  { name := lit "c", type := .plain (lit "varchar(9)"), unique := true, default := some (.str []) }] }

/-- its DDL and what the reader makes of it -/
example :
    (renderTableWith {} exTable []).toOption = some (lit "CREATE TABLE \"t\" (\n  \"a\" int NOT NULL,\n  \"b\" int DEFAULT 0,\n  \"c\" varchar(9) UNIQUE DEFAULT ,\n  PRIMARY KEY (\"a\", \"b\")\n);")
    ∧ readTable (lit "CREATE TABLE \"t\" (\n  \"a\" int NOT NULL,\n  \"b\" int DEFAULT 0,\n  \"c\" varchar(9) UNIQUE DEFAULT ,\n  PRIMARY KEY (\"a\", \"b\")\n);")
      = some ⟨lit "\"t\"", [⟨lit "a", lit "int", false, false, false, true, none⟩, ⟨lit "b", lit "int", false, false, false, false, some (lit "0")⟩,
          ⟨lit "c", lit "varchar(9)", false, false, true, false, some []⟩], some [lit "a", lit "b"]⟩ := by
  repeat rw [lit_eq rfl]
  decide +kernel

/-- non-vacuity of `Readable` -/
example : Readable {} exTable := by
  unfold exTable
  repeat rw [lit_eq rfl]
  refine ⟨by decide, rfl, rfl, rfl, ⟨by decide, by decide⟩, ?_, ?_, ?_, ?_⟩
  · intro c hc
    simp only [List.mem_cons, List.mem_nil_iff, or_false] at hc
    rcases hc with rfl | rfl | rfl <;> exact ⟨rfl, rfl⟩
  · intro c hc
    simp only [List.mem_cons, List.mem_nil_iff, or_false] at hc
    rcases hc with rfl | rfl | rfl <;> rfl
  · intro c hc
    simp only [List.mem_cons, List.mem_nil_iff, or_false] at hc
    rcases hc with rfl | rfl | rfl <;> decide +kernel
  · intro c hc
    simp only [List.mem_cons, List.mem_nil_iff, or_false] at hc
    rcases hc with rfl | rfl | rfl
    · exact ⟨by decide, by decide +kernel, fun d hd => by cases hd⟩
    · refine ⟨by decide, by decide +kernel, fun d hd => ?_⟩
      cases hd; decide +kernel
    · refine ⟨by decide, by decide +kernel, fun d hd => ?_⟩
      cases hd; decide +kernel

end C03
end PyDBML
