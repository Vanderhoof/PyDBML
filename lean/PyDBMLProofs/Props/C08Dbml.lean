/-
C08, `.dbml` of a parsed database.  NOT total: two known findings make it raise (KF-C08-name-with-newline: a line
break in a Project or TableGroup name; KF-C08-inline-composite).  Proved: those are the only ways, for ANY text.
-/
import PyDBMLProofs.Props.C08Render
import PyDBMLProofs.Props.C06Grammar
namespace PyDBML
namespace C08
open Lex Build Exc

theorem buildTable_indexes (enums : List Enum) (tb : Bp.TableBp) (t : Table) (h : buildTable enums tb = .ok t)
    (hb : C06.TableBpOK tb) : ∀ ix ∈ t.indexes, ix.subjects ≠ [] := by
  obtain ⟨_, cols, idx, _, hidx, rfl⟩ := C06.buildTable_inv h
  intro ix hix he
  obtain ⟨ib, hib, hbi⟩ := (mapM_ok hidx).mem hix
  cases hti : tb.indexes with
  | none => simp [hti] at hib
  | some ixs =>
    rw [hti] at hib
    refine hb.2 ixs hti ib hib (List.eq_nil_of_length_eq_zero ?_)
    rw [← (buildIndex_subjects hbi).1, he]
    rfl

theorem build_indexes_nonempty (ap : Bool) (es : List Bp.Elem) (db : Db)
    (hes : ∀ tb, Bp.Elem.table tb ∈ es → C06.TableBpOK tb) (h : buildDatabase ap es = .ok db) :
    ∀ t ∈ db.tables, ∀ ix ∈ t.indexes, ix.subjects ≠ [] := by
  obtain ⟨_, ⟨_, eT⟩, _⟩ := C06.buildDatabase_spec ap es db h
  intro t ht
  obtain ⟨tb, htb, hb⟩ := eT.mem ht
  obtain ⟨e, he, hee⟩ := List.mem_filterMap.mp htb
  cases e <;> simp at hee
  subst hee
  exact buildTable_indexes _ _ _ hb (hes _ he)

theorem dbml_renderInlineRef_isOk (db : Db) (r : Ref) (h : RefOK db.tables r) (h1 : r.col2.length = 1) :
    IsOk (Dbml.renderInlineRef db r) := by
  obtain ⟨t1, t2, ht1, ht2, hc1, hc2⟩ := h
  unfold Dbml.renderInlineRef
  obtain ⟨i, hc⟩ : ∃ i, r.col2 = [i] := by
    match r.col2, h1 with
    | [i], _ => exact ⟨i, rfl⟩
  have hi : i < t2.columns.length := hc2 i (by rw [hc]; simp)
  dsimp only
  split
  · rename_i hgt; rw [hc] at hgt; simp at hgt
  · refine .bind_of_eq (getD?_of_some _ _ _ _ ht2) ?_
    rw [hc]
    exact IsOk.bind_pure _ (getD?_isOk _ _ _ hi)

theorem dbml_renderColumn_isOk (db : Db) (hl : WellLinked db) (hinl : ∀ r ∈ db.refs, r.inline = true → r.col2.length = 1)
    (ti ci : Nat) (c : Column) (hc : ColOK db.enums c) : IsOk (Dbml.renderColumn db ti ci c) := by
  unfold Dbml.renderColumn
  refine IsOk.bind (sql_typeText_isOk db c hc) (fun _ _ => IsOk.bind_pure _ (IsOk.mapM _ _ ?_))
  intro r hr
  unfold Dbml.inlineRefsOfColumn at hr
  obtain ⟨hrm, hcond⟩ := List.mem_filter.mp hr
  have hinline : r.inline = true := by
    simp only [Bool.and_eq_true] at hcond
    exact hcond.2
  exact dbml_renderInlineRef_isOk db r (hl.refs r hrm) (hinl r hrm hinline)

theorem dbml_renderIndex_isOk (t : Table) (ix : Index)
    (h : ∀ s ∈ ix.subjects, ∀ i, s = .col i → i < t.columns.length) (hne : ix.subjects ≠ []) :
    IsOk (Dbml.renderIndex t ix) := by
  unfold Dbml.renderIndex
  refine IsOk.bind_pure _ ?_
  unfold Dbml.renderSubjects
  refine IsOk.bind (IsOk.mapM _ _ ?_) ?_
  · intro s hs
    cases s with
    | col i => exact IsOk.bind_pure _ (getD?_isOk _ _ _ (h _ hs i rfl))
    | expr e => exact IsOk.pure _
    | raw x => exact IsOk.pure _
  · intro ss hss
    have := (mapM_ok hss).1
    match ss, this with
    | [], hl => exact absurd (List.eq_nil_of_length_eq_zero hl.symm) hne
    | [s], _ => exact IsOk.pure _
    | _ :: _ :: _, _ => exact IsOk.pure _

theorem dbml_renderTable_isOk (db : Db) (hl : WellLinked db) (hinl : ∀ r ∈ db.refs, r.inline = true → r.col2.length = 1)
    (hix : ∀ t ∈ db.tables, ∀ ix ∈ t.indexes, ix.subjects ≠ []) (ti : Nat) (hti : ti < db.tables.length) :
    IsOk (Dbml.renderTable db ti) := by
  unfold Dbml.renderTable
  refine IsOk.bind (getD?_isOk _ _ _ hti) ?_
  intro t ht
  have htm : t ∈ db.tables := getD?_mem ht
  unfold Dbml.renderTableBody
  refine IsOk.bind (IsOk.mapM _ _ ?_) (fun cols _ => ?_)
  · intro ci hci
    have hci' : ci < t.columns.length := List.mem_range.mp hci
    refine IsOk.bind (getD?_isOk _ _ _ hci') ?_
    intro c hc
    exact dbml_renderColumn_isOk db hl hinl ti ci c ((hl.tables t htm).1 c (getD?_mem hc))
  · dsimp only
    split
    · exact IsOk.bind_pure _ (IsOk.pure _)
    · refine IsOk.bind_pure _ (IsOk.mapM _ _ ?_)
      intro ix hixm
      exact dbml_renderIndex_isOk t ix ((hl.tables t htm).2 ix hixm) (hix t htm ix hixm)

theorem dbml_renderCols_isOk (t : Table) (cols : List Nat) (h : ∀ i ∈ cols, i < t.columns.length) :
    IsOk (Dbml.renderCols t cols) := by
  unfold Dbml.renderCols
  refine IsOk.bind (mapM_getD?_isOk _ _ _ _ h) fun names _ => ?_
  split <;> exact IsOk.pure _

theorem doublequoteString_isOk (s : Str) (h : containsChar '\n' s = false) : IsOk (Dbml.liftPy (doublequoteString s)) := by
  unfold doublequoteString
  rw [h]
  exact IsOk.pure _

theorem dbml_total (db : Db) (hl : WellLinked db)
    (hpn : ∀ p, db.project = some p → containsChar '\n' p.name = false)
    (hgn : ∀ g ∈ db.groups, containsChar '\n' g.name = false)
    (hinl : ∀ r ∈ db.refs, r.inline = true → r.col2.length = 1)
    (hix : ∀ t ∈ db.tables, ∀ ix ∈ t.indexes, ix.subjects ≠ []) : IsOk (Dbml.renderDb db) := by
  unfold Dbml.renderDb
  refine IsOk.bind ?_ (fun _ _ => IsOk.bind (IsOk.mapM _ _ ?_) (fun _ _ => IsOk.bind (IsOk.mapM _ _ ?_)
    (fun _ _ => IsOk.bind_pure _ (IsOk.mapM _ _ ?_))))
  · unfold Dbml.renderProjectList
    split
    · rename_i p hp
      have : IsOk (Dbml.renderProject p) := by
        unfold Dbml.renderProject
        exact IsOk.bind_pure _ (doublequoteString_isOk _ (hpn p hp))
      obtain ⟨x, hx⟩ := this
      exact ⟨[x], by simp [hx, Except.map]⟩
    · exact IsOk.pure _
  · intro ti hti
    exact dbml_renderTable_isOk db hl hinl hix ti (List.mem_range.mp hti)
  · intro r hr
    obtain ⟨hrm, hni⟩ := List.mem_filter.mp hr
    unfold Dbml.renderRef
    have : r.inline = false := by simpa using hni
    simp only [this, Bool.false_eq_true, ↓reduceIte]
    obtain ⟨t1, t2, ht1, ht2, hc1, hc2⟩ := hl.refs r hrm
    refine .bind_of_eq (getD?_of_some _ _ _ _ ht1) (.bind_of_eq (getD?_of_some _ _ _ _ ht2) ?_)
    exact IsOk.bind (dbml_renderCols_isOk _ _ hc1) (fun _ _ => IsOk.bind_pure _ (dbml_renderCols_isOk _ _ hc2))
  · intro g hg
    unfold Dbml.renderGroup
    exact IsOk.bind (doublequoteString_isOk _ (hgn g hg)) fun _ _ =>
      .bind_pure _ (mapM_getD?_isOk _ _ _ _ (hl.groups g hg))

/-- **C08, `.dbml` of a parsed database, for any input text** (partial: the hypotheses exclude the two known
    findings - KF-C08-name-with-newline, `hpn` and `hgn`; KF-C08-inline-composite, `hinl`). -/
theorem parsed_dbml_total_partial (ap : Bool) (text : Str) (db : Db) (h : Build.parse ap text = .ok db)
    (hpn : ∀ p, db.project = some p → containsChar '\n' p.name = false)
    (hgn : ∀ g ∈ db.groups, containsChar '\n' g.name = false)
    (hinl : ∀ r ∈ db.refs, r.inline = true → r.col2.length = 1) :
    ∃ s, Dbml.renderDb db = .ok s := by
  obtain ⟨es, c, hp, hb⟩ := parse_ok h
  exact dbml_total db (build_wellLinked _ _ _ hb) hpn hgn hinl
    (build_indexes_nonempty _ _ _ (C06.post_document_tables ap (C06.post_tableRule ap) _ _ _ hp) hb)

/-! the two known findings in the model (for `hpn` and `hinl`; `hgn` has no witness here) -/

theorem dbml_raises_name_with_newline :
    Dbml.renderDb { project := some { name := lit "a\nb" } } = .error (.internal .ValueError) := by rfl

theorem dbml_raises_inline_composite :
    Dbml.renderDb { tables := [{ name := lit "t", columns := [{ name := lit "a", type := .plain (lit "int") },
                                                             { name := lit "b", type := .plain (lit "int") }] },
                               { name := lit "u", columns := [{ name := lit "x", type := .plain (lit "int") }] }],
                    refs := [{ kind := .manyToOne, t1 := 1, col1 := [0], t2 := 0, col2 := [0, 1], inlineFlag := true }] }
      = .error (.lib "DBMLError") := by rfl

end C08
end PyDBML
