/-
C02/C01/C05 — tables with plain columns (`"name" type`, no settings).  The plain columns are one column form, `plainForm`;
every theorem here is the instance of its `ColForm` counterpart at that form (`x_eq`/`x_eqF`: a plain definition is the
generic one at `plainForm`).  First the plain definitions that the statements speak of.
-/
import PyDBMLProofs.Props.C02FormRefs
namespace PyDBML
namespace C02
open Lex Grammar Build

def colsText : List (Str × Str) → Str
  | [] => []
  | (cn, ty) :: r => colLine cn ty ++ colsText r

def ColsOK (cs : List (Str × Str)) : Prop := ∀ p ∈ cs, NameOK p.1 ∧ TypeOK p.2

/-- non-vacuity -/
example : NameOK (lit "order items") ∧ ColsOK [(lit "id", lit "int"), (lit "unit price", lit "decimal")] := by
  repeat rw [lit_eq rfl]
  refine ⟨?_, ?_⟩
  · intro c hc; revert c; decide
  · intro p hp
    simp at hp
    rcases hp with rfl | rfl <;> refine ⟨fun c hc => ?_, by decide, by decide⟩ <;> (revert c; decide)

def tableText (tn : Str) (cs : List (Str × Str)) : Str :=
  'T' :: 'a' :: 'b' :: 'l' :: 'e' :: ' ' :: '"' :: (tn ++ '"' :: ' ' :: '{' :: '\n' :: (colsText cs ++ ['}']))

def plainTable (tn : Str) (cs : List (Str × Str)) : Bp.TableBp :=
  { name := tn, schema := lit "public", columns := cs.map fun p => plainCol p.1 p.2 }

def plainColumn (p : Str × Str) : Column := { name := p.1, type := .plain p.2 }
def plainTableM (tn : Str) (cs : List (Str × Str)) : Table := { name := tn, columns := cs.map plainColumn }

def colStr (p : Str × Str) : Str := '"' :: (p.1 ++ '"' :: ' ' :: p.2)

theorem colStr_ok (p : Str × Str) (hn : NameOK p.1) (ht : TypeOK p.2) : LineOK (colStr p) := by
  simp only [LineOK, colStr, List.forall_mem_cons, List.forall_mem_append]
  exact ⟨by decide, fun c hc => (hn c hc).2.2.1, by decide, by decide,
    fun c hc => nameChar_not_lineBreak c (List.all_eq_true.mp ht.2 c hc)⟩

def tableTextP (tn : Str) (cs : List (Str × Str)) (post : Str) : Str :=
  'T' :: 'a' :: 'b' :: 'l' :: 'e' :: ' ' :: '"' :: (tn ++ '"' :: ' ' :: '{' :: '\n' :: (colsText cs ++ '}' :: post))

theorem tableText_eq (tn : Str) (cs : List (Str × Str)) : tableText tn cs = tableTextP tn cs [] := rfl

/-- a table: its name and its columns (name, type) -/
abbrev TSpec := Str × List (Str × Str)

def TSpecOK (t : TSpec) : Prop := NameOK t.1 ∧ ColsOK t.2 ∧ t.2 ≠ []

/-- the text after a table's closing brace -/
def docTail : List TSpec → Str
  | [] => []
  | t :: ts => '\n' :: '\n' :: tableTextP t.1 t.2 (docTail ts)

/-- … and after the end rule has consumed the first line break -/
def afterText : List TSpec → Str
  | [] => []
  | t :: ts => '\n' :: tableTextP t.1 t.2 (docTail ts)

def docText : List TSpec → Str
  | [] => []
  | t :: ts => tableTextP t.1 t.2 (docTail ts)

def mkElem (t : TSpec) : Bp.Elem := Bp.Elem.table (plainTable t.1 t.2)

def mkTable (t : TSpec) : Table := plainTableM t.1 t.2

def docTailR : List TSpec → List RText → Str
  | [], rs => refsTail rs
  | t :: ts, rs => '\n' :: '\n' :: tableTextP t.1 t.2 (docTailR ts rs)

def docTextR : List TSpec → List RText → Str
  | [], _ => []
  | t :: ts, rs => tableTextP t.1 t.2 (docTailR ts rs)

def tname (ts : List TSpec) (i : Nat) : Str := ((ts[i]?).map (·.1)).getD []
def cname (ts : List TSpec) (i j : Nat) : Str := (((ts[i]?).bind fun t => t.2[j]?).map (·.1)).getD []

def rtext (ts : List TSpec) (r : RSpec) : RText :=
  { kind := r.kind, t1 := tname ts r.t1, c1 := cname ts r.t1 r.c1, t2 := tname ts r.t2, c2 := cname ts r.t2 r.c2 }

/-- what makes names resolvable: exactly the recorded findings are excluded -/
structure Resolvable (ts : List TSpec) : Prop where
  tnames : ts.Pairwise (fun a b => a.1 ≠ b.1)
  /-- no dot in a table name (KF-C01-dotted-quoted-name / alias shadowing of `schema.name` keys) -/
  nodot : ∀ t ∈ ts, '.' ∉ t.1
  /-- column names of one table are pairwise different (DuplicateColumnName) -/
  cnames : ∀ t ∈ ts, t.2.Pairwise (fun a b => a.1 ≠ b.1)
  /-- a column name is one piece and survives `strip('() ')` (KF-C01-ref-column-split) -/
  cplain : ∀ t ∈ ts, ∀ c ∈ t.2, splitComma c.1 = [c.1] ∧ stripParenSpace c.1 = c.1

def RSpecIn (ts : List TSpec) (r : RSpec) : Prop :=
  ∃ ta tb, ts[r.t1]? = some ta ∧ ts[r.t2]? = some tb ∧ r.c1 < ta.2.length ∧ r.c2 < tb.2.length

def mkDb (ap : Bool) (ts : List TSpec) (rs : List RSpec) : Db :=
  { tables := ts.map mkTable, refs := rs.map mkRef, allowProps := ap }

theorem buildColumn_plain (enums : List Enum) (p : Str × Str)
    (h : resolveTypePure enums p.2 = .plain p.2) : buildColumn enums (plainCol p.1 p.2) = .ok (plainColumn p) := by
  simp [buildColumn, buildDefault, resolveType, h, buildNote, plainCol, plainColumn, bind, Except.bind, pure, Except.pure]

theorem renderColumn_plain (db : Db) (ti ci : Nat) (p : Str × Str)
    (h : (Dbml.inlineRefsOfColumn db ti ci).mapM (Dbml.renderInlineRef db) = .ok []) :
    Dbml.renderColumn db ti ci (plainColumn p) = .ok (colStr p) := by
  simp [Dbml.renderColumn, Sql.typeText, h, plainColumn, colStr, Dbml.optComment, bind, Except.bind, pure, Except.pure, lit]

def plainForm : ColForm (Str × Str) where
  str := colStr
  bp := fun p => plainCol p.1 p.2
  col := plainColumn
  ok := fun _ p => NameOK p.1 ∧ TypeOK p.2
  quoted := fun _ => ⟨_, rfl⟩
  parse := fun props c p rest hc hp hok =>
    tableColumn_ok props c p.1 p.2 rest (by rw [hc]; simp [colStr, colLine]) hp hok.1 hok.2
  noTab := by
    intro _ p hok
    simp only [colStr, List.forall_mem_cons, List.forall_mem_append, ne_eq, Char.reduceEq, not_false_eq_true, true_and]
    exact ⟨fun c h => (hok.1 c h).2.2.2, nameChars_no_tab hok.2.2⟩
  lineOK := fun _ p hok => colStr_ok p hok.1 hok.2
  irefs := fun _ => []
  bp_refs := fun _ => rfl
  build := fun _ enums p _ hres => buildColumn_plain enums p hres
  render := fun db ti ci p _ h => renderColumn_plain db ti ci p h

theorem colsText_eq : ∀ cs : List (Str × Str), colsText cs = plainForm.text cs
  | [] => rfl
  | (cn, ty) :: r => by simp [colsText, ColForm.text, colLine, plainForm, colStr, colsText_eq r]

theorem tableText_eqF (tn : Str) (cs : List (Str × Str)) : tableText tn cs = plainForm.tableText tn cs := by
  simp [tableText, ColForm.tableText, colsText_eq]

theorem many_body (props : Bool) (cs : List (Str × Str)) (tail : Str) (hcs : ColsOK cs) :
    ∀ (fuel : Nat) (c : Cur), cs.length < fuel → c.rest = colsText cs ++ '}' :: tail → c.pastEnd = false →
      ∃ c', many (tableElement props) fuel c = .ok (cs.map fun p => TblElem.column (plainCol p.1 p.2)) c'
        ∧ c'.rest = '}' :: tail ∧ c'.pastEnd = false := by
  intro fuel c hf hc hp
  rw [colsText_eq] at hc
  have := plainForm.many_bodyK props cs ('}' :: tail) tail [] 0 (endOK_brace tail)
    (fun fuel c hf => (Run.many_stop (fun c hc => tableElement_fail_brace props c tail hc.1) fuel hf).at c)
    hcs fuel c (by simpa using hf) hc hp
  simpa [List.map_map, Function.comp_def, plainForm] using this

theorem tableRule_ok (props : Bool) (c : Cur) (tn : Str) (cs : List (Str × Str))
    (hc : c.rest = tableText tn cs) (hp : c.pastEnd = false) (hprev : c.prev = none)
    (htn : NameOK tn) (hcs : ColsOK cs) (hne : cs ≠ []) :
    ∃ c', tableRule props c = .ok (plainTable tn cs) c' ∧ c'.rest = [] ∧ c'.pastEnd = true :=
  plainForm.tableRule_ok props c tn cs (by rw [hc, tableText_eqF]) hp hprev htn hcs hne

theorem parseDoc_table (ap : Bool) (tn : Str) (cs : List (Str × Str)) (htn : NameOK tn) (hcs : ColsOK cs)
    (hne : cs ≠ []) :
    ∃ c', parseDoc ap (tableText tn cs) = .ok [Bp.Elem.table (plainTable tn cs)] c' := by
  rw [tableText_eqF]; exact plainForm.parseDoc_table ap tn cs htn hcs hne

theorem renderDb_table (ap : Bool) (tn : Str) (cs : List (Str × Str)) (hcs : ColsOK cs) (hne : cs ≠ []) :
    Dbml.renderDb { tables := [plainTableM tn cs], allowProps := ap } = .ok (tableText tn cs) := by
  rw [tableText_eqF]; exact plainForm.renderDb_table ap tn cs hcs hne (fun _ _ => rfl)

/-- no comment, no note -/
def ftab (t : TSpec) : FTab (Str × Str) := { name := t.1, cols := t.2 }

theorem tableTextP_eq (tn : Str) (cs : List (Str × Str)) (post : Str) :
    tableTextP tn cs post = plainForm.tableTextP tn cs [] post := by
  simp [tableTextP, ColForm.tableTextP, colsText_eq, noteBlock]

theorem tabTextP_ftab (t : TSpec) (post : Str) : plainForm.tabTextP (ftab t) post = tableTextP t.1 t.2 post := by
  simp [ColForm.tabTextP, ftab, commentText, tableTextP_eq]

theorem docTail_eq : ∀ ts : List TSpec, docTail ts = plainForm.docTail (ts.map ftab)
  | [] => rfl
  | t :: r => by simp [docTail, ColForm.docTail, tabTextP_ftab, docTail_eq r]

theorem afterText_eq (ts : List TSpec) : afterText ts = plainForm.afterText (ts.map ftab) := by
  cases ts <;> simp [afterText, ColForm.afterText, tabTextP_ftab, docTail_eq]

theorem docText_eq (ts : List TSpec) : docText ts = plainForm.docText (ts.map ftab) := by
  cases ts <;> simp [docText, ColForm.docText, tabTextP_ftab, docTail_eq]

theorem map_mkElem (ts : List TSpec) : ts.map mkElem = (ts.map ftab).map plainForm.mkElem := by
  rw [List.map_map]; rfl
theorem map_mkTable (ts : List TSpec) : ts.map mkTable = (ts.map ftab).map plainForm.mkTable := by
  rw [List.map_map]; rfl

theorem specOK_map (ap : Bool) (ts : List TSpec) (h : ∀ t ∈ ts, TSpecOK t) : ∀ t ∈ ts.map ftab, plainForm.specOK ap t :=
  List.forall_mem_map.mpr fun u hu => ⟨(h u hu).1, (h u hu).2.1, (h u hu).2.2, trivial, tnoteOK_nil⟩

theorem pairwise_ftab (ts : List TSpec) (h : ts.Pairwise (fun a b => a.1 ≠ b.1)) :
    (ts.map ftab).Pairwise (fun a b => a.name ≠ b.name) := List.pairwise_map.mpr h

theorem ftab_note (ts : List TSpec) : ∀ t ∈ ts.map ftab, norm t.note = t.note := by
  intro t ht; obtain ⟨u, _, rfl⟩ := List.mem_map.mp ht; rfl

theorem plain_col (t : FTab (Str × Str)) : ∀ s ∈ t.cols, buildColumn [] (plainForm.bp s) = .ok (plainForm.col s) :=
  fun s _ => buildColumn_plain [] s rfl

theorem build_table (ap : Bool) (tn : Str) (cs : List (Str × Str)) :
    buildDatabase ap [Bp.Elem.table (plainTable tn cs)] = .ok { tables := [plainTableM tn cs], allowProps := ap } :=
  plainForm.build_tables_of ap [ftab (tn, cs)] (by simp) (fun t _ => plain_col t) (fun _ _ _ _ => rfl) (by simp [ftab]; rfl)

/-- **C02 for one table with plain columns**: a database holding one table in schema public with any positive number of
    columns, each with a quoted name and a one-word type, is rendered to DBML and parsed back to exactly the same database. -/
theorem table_roundtrip_partial (ap : Bool) (tn : Str) (cs : List (Str × Str))
    (htn : NameOK tn) (hcs : ColsOK cs) (hne : cs ≠ []) :
    ∃ text, Dbml.renderDb { tables := [plainTableM tn cs], allowProps := ap } = .ok text
      ∧ Build.parse ap text = .ok { tables := [plainTableM tn cs], allowProps := ap } :=
  roundtrip_of ap _ (tableText tn cs) _ (renderDb_table ap tn cs hcs hne) (parseDoc_table ap tn cs htn hcs hne)
    (by simp [removeBom, tableText]) (build_table ap tn cs)

theorem tableRule_okP (props : Bool) (c c0 : Cur) (tn : Str) (cs : List (Str × Str)) (post : Str) (Q : Cur → Prop)
    (hb : cBefore c = .ok [] c0)
    (hc : c0.rest = tableTextP tn cs post) (hp : c0.pastEnd = false)
    (hprev : ∀ p, c0.prev = some p → isKwIdent p = false)
    (htn : NameOK tn) (hcs : ColsOK cs) (hne : cs ≠ [])
    (hend : ∀ c7 : Cur, c7.rest = post → c7.pastEnd = false → ∃ c9, endRule c7 = .ok () c9 ∧ Q c9) :
    ∃ c9, tableRule props c = .ok (plainTable tn cs) c9 ∧ Q c9 :=
  plainForm.tableRule_okP props c c0 tn cs [] post Q [] hb (by rw [hc, tableTextP_eq]) hp hprev htn hcs hne tnoteOK_nil hend

theorem many_tables (ap : Bool) : ∀ (ts : List TSpec) (fuel : Nat) (c : Cur), ts.length < fuel →
    (∀ t ∈ ts, TSpecOK t) → c.rest = afterText ts → c.pastEnd = ts.isEmpty →
    ∃ c', many (element ap) fuel c = .ok (ts.map mkElem) c' ∧ c'.rest = [] ∧ c'.pastEnd = true := by
  intro ts fuel c hf hok hc hp
  rw [map_mkElem]
  exact plainForm.many_tables ap (ts.map ftab) fuel c (by simpa using hf) (specOK_map ap ts hok) (by rw [hc, afterText_eq])
    (by simpa using hp)

theorem parseDoc_tables (ap : Bool) (ts : List TSpec) (hok : ∀ t ∈ ts, TSpecOK t) (hne : ts ≠ []) :
    ∃ c', parseDoc ap (docText ts) = .ok (ts.map mkElem) c' := by
  rw [docText_eq, map_mkElem]
  exact plainForm.parseDoc_tables ap (ts.map ftab) (specOK_map ap ts hok) (by simpa using hne)

theorem foldlM_tables : ∀ (todo done : List TSpec), (done ++ todo).Pairwise (fun a b => a.1 ≠ b.1) →
    (todo.map fun t => plainTable t.1 t.2).foldlM (tableStep []) (done.map mkTable) = .ok ((done ++ todo).map mkTable) := by
  intro todo done hp
  have := plainForm.foldlM_tables_of [] (todo.map ftab) (done.map ftab) (by rw [← List.map_append]; exact pairwise_ftab _ hp)
    (fun t _ => plain_col t) (ftab_note todo)
  rw [List.map_map, List.map_map, ← List.map_append, List.map_map] at this
  exact this

theorem build_tables (ap : Bool) (ts : List TSpec) (hd : ts.Pairwise (fun a b => a.1 ≠ b.1)) :
    buildDatabase ap (ts.map mkElem) = .ok { tables := ts.map mkTable, allowProps := ap } := by
  rw [map_mkElem, map_mkTable]
  exact plainForm.build_tables_of ap (ts.map ftab) (pairwise_ftab ts hd) (fun t _ => plain_col t) (fun _ _ _ _ => rfl)
    (ftab_note ts)

theorem renderDb_tables (ap : Bool) (ts : List TSpec) (hok : ∀ t ∈ ts, TSpecOK t) :
    Dbml.renderDb { tables := ts.map mkTable, allowProps := ap } = .ok (docText ts) := by
  rw [docText_eq, map_mkTable]
  exact plainForm.renderDb_tables ap (ts.map ftab) (specOK_map ap ts hok) (fun _ _ _ _ => rfl)

/-- **C02 for documents of plain tables**: any positive number of such tables with pairwise different names (no
    alias/settings/note/indexes) come back as the same tables in the same order with the same columns in the same order. -/
theorem tables_roundtrip_partial (ap : Bool) (ts : List TSpec) (hok : ∀ t ∈ ts, TSpecOK t) (hne : ts ≠ [])
    (hd : ts.Pairwise (fun a b => a.1 ≠ b.1)) :
    ∃ text, Dbml.renderDb { tables := ts.map mkTable, allowProps := ap } = .ok text
      ∧ Build.parse ap text = .ok { tables := ts.map mkTable, allowProps := ap } := by
  rw [map_mkTable]
  exact form_tables_roundtrip plainForm ap (ts.map ftab) (specOK_map ap ts hok) (by simpa using hne) (pairwise_ftab ts hd)
    (fun _ _ _ _ => rfl)

theorem docTailR_eqF (rs : List RText) : ∀ ts : List TSpec, docTailR ts rs = plainForm.docTailR (ts.map ftab) rs
  | [] => rfl
  | t :: r => by simp [docTailR, ColForm.docTailR, tabTextP_ftab, docTailR_eqF rs r]

theorem docTextR_eqF (ts : List TSpec) (rs : List RText) : docTextR ts rs = plainForm.docTextR (ts.map ftab) rs := by
  cases ts <;> simp [docTextR, ColForm.docTextR, tabTextP_ftab, docTailR_eqF]

theorem tname_eq (ts : List TSpec) (i : Nat) : tname ts i = plainForm.tnameAt (ts.map ftab) i := by
  unfold tname ColForm.tnameAt
  rw [List.getElem?_map]
  cases ts[i]? <;> rfl

theorem cname_eq (ts : List TSpec) (i j : Nat) : cname ts i j = plainForm.cnameAt (ts.map ftab) i j := by
  unfold cname ColForm.cnameAt
  rw [List.getElem?_map]
  cases ts[i]? with
  | none => rfl
  | some t =>
    show ((t.2[j]?).map (·.1)).getD [] = ((t.2[j]?).map plainForm.cname).getD []
    cases t.2[j]? <;> rfl

theorem rtext_eq (ts : List TSpec) (r : RSpec) : rtext ts r = plainForm.rtext (ts.map ftab) r := by
  simp only [rtext, ColForm.rtext, tname_eq, cname_eq]

theorem map_rtext (ts : List TSpec) (rs : List RSpec) : rs.map (rtext ts) = rs.map (plainForm.rtext (ts.map ftab)) :=
  List.map_congr_left fun r _ => rtext_eq ts r

theorem mkDb_eq (ap : Bool) (ts : List TSpec) (rs : List RSpec) : mkDb ap ts rs = plainForm.mkDb ap (ts.map ftab) rs := by
  simp [mkDb, ColForm.mkDb, map_mkTable]

theorem resolvable_ftab (ts : List TSpec) (h : Resolvable ts) : plainForm.Resolvable (ts.map ftab) where
  tnames := pairwise_ftab ts h.tnames
  nodot := List.forall_mem_map.mpr h.nodot
  cnames := List.forall_mem_map.mpr h.cnames
  cplain := List.forall_mem_map.mpr h.cplain

theorem rspecIn_ftab (ts : List TSpec) (r : RSpec) (h : RSpecIn ts r) : plainForm.RSpecIn (ts.map ftab) r := by
  obtain ⟨ta, tb, h1, h2, h3, h4⟩ := h
  exact ⟨ftab ta, ftab tb, by simp [List.getElem?_map, h1], by simp [List.getElem?_map, h2], h3, h4⟩

theorem parseDoc_tables_refs (ap : Bool) (ts : List TSpec) (rs : List RText) (hok : ∀ t ∈ ts, TSpecOK t)
    (hrs : ∀ r ∈ rs, RTextOK r) (hne : ts ≠ []) :
    ∃ c', parseDoc ap (docTextR ts rs) = .ok (ts.map mkElem ++ rs.map mkRefElem) c' := by
  rw [docTextR_eqF, map_mkElem]
  exact plainForm.parseDoc_tables_refs ap (ts.map ftab) rs (specOK_map ap ts hok) hrs (by simpa using hne)

theorem buildRef_plain (ts : List TSpec) (hr : Resolvable ts) (r : RSpec) (hin : RSpecIn ts r) (db : Db)
    (hdb : db.tables = ts.map mkTable) : buildRef db (refBp (rtext ts r)) = .ok (mkRef r) := by
  rw [rtext_eq]
  exact plainForm.buildRef_ok (ts.map ftab) (resolvable_ftab ts hr) r (rspecIn_ftab ts r hin) db (by rw [hdb, map_mkTable])

theorem build_tables_refs (ap : Bool) (ts : List TSpec) (rs : List RSpec) (hr : Resolvable ts)
    (hin : ∀ r ∈ rs, RSpecIn ts r) (hnd : rs.Nodup) :
    buildDatabase ap (ts.map mkElem ++ (rs.map (rtext ts)).map mkRefElem) = .ok (mkDb ap ts rs) := by
  rw [map_mkElem, map_rtext, mkDb_eq]
  exact plainForm.build_tables_refs_of ap (ts.map ftab) rs (resolvable_ftab ts hr)
    (fun t _ => plain_col t) (fun r h => rspecIn_ftab ts r (hin r h)) hnd (fun _ _ _ _ => rfl) (ftab_note ts)

theorem renderDb_tables_refs (ap : Bool) (ts : List TSpec) (rs : List RSpec) (hok : ∀ t ∈ ts, TSpecOK t)
    (hin : ∀ r ∈ rs, RSpecIn ts r) (hts : ts ≠ []) (hrs : rs ≠ []) :
    Dbml.renderDb (mkDb ap ts rs) = .ok (docTextR ts (rs.map (rtext ts))) := by
  rw [mkDb_eq, docTextR_eqF, map_rtext]
  exact plainForm.renderDb_tables_refs ap (ts.map ftab) rs (specOK_map ap ts hok) (fun r h => rspecIn_ftab ts r (hin r h))
    (by simpa using hts) hrs (fun _ _ _ _ => rfl)

/-- **C02 / C05 for plain tables followed by pairwise different standalone single-column references**: every reference is
    resolved - by table name and column name - to the very positions it was written from.  The hypotheses on names
    (`Resolvable`) are exactly the recorded findings: no dot in a table name, no comma / framing parentheses or blanks in a
    column name, no two columns of a table with one name. -/
theorem refs_roundtrip_partial (ap : Bool) (ts : List TSpec) (rs : List RSpec)
    (hok : ∀ t ∈ ts, TSpecOK t) (hts : ts ≠ []) (hres : Resolvable ts)
    (hin : ∀ r ∈ rs, RSpecIn ts r) (hrs : rs ≠ []) (hnd : rs.Nodup) :
    ∃ text, Dbml.renderDb (mkDb ap ts rs) = .ok text ∧ Build.parse ap text = .ok (mkDb ap ts rs) := by
  rw [mkDb_eq]
  exact form_refs_roundtrip plainForm ap (ts.map ftab) rs (specOK_map ap ts hok)
    (List.forall_mem_map.mpr fun u hu s hs => ((hok u hu).2.1 s hs).1)
    (by simpa using hts) (resolvable_ftab ts hres) (fun r h => rspecIn_ftab ts r (hin r h)) hrs hnd (fun _ _ _ _ => rfl)

theorem docTail_eq_join : ∀ (ts : List TSpec), ts ≠ [] → joinWith (lit "\n\n") (ts.map fun t => tableText t.1 t.2) = docText ts := by
  intro ts _
  have h : ∀ t : TSpec, plainForm.tabText (ftab t) = tableText t.1 t.2 := by
    intro t; simp [ColForm.tabText, ftab, commentText, ColForm.tableTextN, noteBlock, tableText_eqF, ColForm.tableText]
  have := plainForm.joinWith_tables (ts.map ftab)
  rw [List.map_map] at this
  rw [docText_eq, ← this]
  exact congrArg _ (List.map_congr_left fun t _ => (h t).symm)

end C02
end PyDBML
