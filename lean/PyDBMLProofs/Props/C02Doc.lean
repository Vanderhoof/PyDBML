/-
C01/C02 — whole documents as sequences of element forms.  An `EForm ap` is one top-level element as it is written (possibly
under a one-line comment), the blueprint the grammar reads from it, and the proof that `element ap` reads exactly that,
whatever precedes and follows it.  `parseDoc_elems_gaps_end` carries any list of element forms through the document rule
once and for all, under any spacing.
-/
import PyDBMLProofs.Props.C01LayoutEnd
namespace PyDBML
namespace C02
open Lex Grammar Build

/-- what follows an element: the end of the text, or a line break -/
def EndsOK (post : Str) : Prop := post = [] ∨ ∃ r, post = '\n' :: r

/-- where the end rule of an element leaves the cursor -/
def After (post : Str) (c9 : Cur) : Prop :=
  (post = [] → c9.rest = [] ∧ c9.pastEnd = true) ∧ (∀ r, post = '\n' :: r → c9.rest = r ∧ c9.pastEnd = false)

theorem run_end_after {p : P Unit} (heof : Run p () (At []) (AtE [] true)) (hnl : ∀ r, Run p () (At ('\n' :: r)) (At r))
    {post : Str} (h : EndsOK post) : Run p () (At post) (After post) := by
  rcases h with rfl | ⟨r, rfl⟩
  · exact heof.post fun c hc => And.intro (fun _ => hc) (fun r h => by cases h)
  · exact (hnl r).post fun c hc => And.intro (fun h => by cases h) (fun r' h => by cases h; exact hc)

theorem run_endRule_after {post : Str} (h : EndsOK post) : Run endRule () (At post) (After post) :=
  run_end_after run_endRule_eof run_endRule_nl h

theorem run_refEnd_after {post : Str} (h : EndsOK post) : Run (alt lineEnd stringEnd) () (At post) (After post) :=
  run_end_after run_refEnd_eof run_refEnd_nl h

/-- `headAscii` serves `text_removeBom` only: the first character of the text is no byte-order mark -/
structure EForm (ap : Bool) where
  /-- the one-line comment above it, if any -/
  pre : Option Str
  /-- the element's own text is `head :: body` -/
  head : Char
  body : Str
  elem : Bp.Elem
  headOK : isWs head = false ∧ head ≠ '\n' ∧ head ≠ '/'
  headAscii : head.toNat < 128
  preOK : CmOK pre
  noTab : ∀ c ∈ head :: body, c ≠ '\t'
  parse : ∀ (c c0 : Cur) (post : Str), cBefore c = .ok (cmList pre) c0 → c0.rest = head :: (body ++ post) →
    c0.pastEnd = false → (∀ p, c0.prev = some p → isKwIdent p = false) → EndsOK post →
    ∃ c9, element ap c = .ok elem c9 ∧ After post c9

variable {ap : Bool}

def EForm.text (e : EForm ap) : Str := commentText e.pre ++ e.head :: e.body

theorem EForm.text_length (e : EForm ap) : 1 ≤ e.text.length := by
  simp [EForm.text]; omega

theorem EForm.text_no_tab (e : EForm ap) : ∀ c ∈ e.text, c ≠ '\t' :=
  List.forall_mem_append.mpr ⟨commentText_no_tab e.pre e.preOK, e.noTab⟩

theorem EForm.text_removeBom (e : EForm ap) (rest : Str) : removeBom (e.text ++ rest) = e.text ++ rest := by
  have hne : e.text ≠ [] := by have := e.text_length; intro h0; rw [h0] at this; simp at this
  cases ht : e.text with
  | nil => exact absurd ht hne
  | cons x xs =>
    have hx : x.toNat ≠ 0xFEFF := by
      cases hpre : e.pre with
      | some s0 => simp [EForm.text, hpre, commentText] at ht; rw [← ht.1]; decide
      | none =>
        simp [EForm.text, hpre, commentText] at ht
        have := e.headAscii
        rw [ht.1] at this
        omega
    simp [removeBom, hx]

/-- `GT`: with gaps and a tail.  What follows an element: each further element `(k, e)` after a line break, `k` empty
    lines and one more line break; at the end `m` line breaks -/
def docTailGT (m : Nat) : List (Nat × EForm ap) → Str
  | [] => List.replicate m '\n'
  | (k, e) :: es => '\n' :: (List.replicate k '\n' ++ '\n' :: (e.text ++ docTailGT m es))

/-- … once the end rule of that element is through: it has passed the first line break - or, with `m = 0` after the last
    element, the end of the input: the cursor is then past the end (`es.isEmpty && m == 0` below) and `m - 1` is 0 -/
def afterGT (m : Nat) : List (Nat × EForm ap) → Str
  | [] => List.replicate (m - 1) '\n'
  | (k, e) :: es => List.replicate k '\n' ++ '\n' :: (e.text ++ docTailGT m es)

def docTextGT (m : Nat) (e : EForm ap) (es : List (Nat × EForm ap)) : Str := e.text ++ docTailGT m es

theorem docTailGT_ends (m : Nat) (es : List (Nat × EForm ap)) : EndsOK (docTailGT m es) := by
  cases es with
  | nil =>
    cases m with
    | zero => exact Or.inl rfl
    | succ j => exact Or.inr ⟨List.replicate j '\n', by simp [docTailGT, List.replicate_succ]⟩
  | cons e r => obtain ⟨k, e⟩ := e; exact Or.inr ⟨_, rfl⟩

theorem after_docTailGT (m : Nat) (es : List (Nat × EForm ap)) (c9 : Cur) (h : After (docTailGT m es) c9) :
    c9.rest = afterGT m es ∧ c9.pastEnd = (es.isEmpty && m == 0) := by
  cases es with
  | nil =>
    cases m with
    | zero => simpa [afterGT, docTailGT] using h.1 rfl
    | succ j => simpa [afterGT, docTailGT] using h.2 (List.replicate j '\n') (by simp [docTailGT, List.replicate_succ])
  | cons e r => obtain ⟨k, e⟩ := e; simpa [afterGT] using h.2 _ rfl

theorem afterGT_le (m : Nat) : ∀ r : List (Nat × EForm ap), (afterGT m r).length ≤ (docTailGT m r).length
  | [] => by simp [afterGT, docTailGT]
  | (k, e) :: r => by simp [afterGT, docTailGT]

theorem afterGT_lt (m : Nat) (x : Nat × EForm ap) (r : List (Nat × EForm ap)) :
    (afterGT m r).length < (afterGT m (x :: r)).length := by
  obtain ⟨k, e⟩ := x
  have := e.text_length; have := afterGT_le m r
  show _ < (List.replicate k '\n' ++ '\n' :: (e.text ++ docTailGT m r)).length
  simp only [List.length_cons, List.length_append]; omega

theorem run_element_afterGT (m k : Nat) (e : EForm ap) (es : List (Nat × EForm ap)) :
    Run (element ap) e.elem (At (afterGT m ((k, e) :: es))) (AtE (afterGT m es) (es.isEmpty && m == 0)) :=
  .of_at fun c hc hp => by
  obtain ⟨c0, hb, hr0, hp0, hpv0⟩ := cBefore_nls_comment c e.pre k e.head (e.body ++ docTailGT m es) e.headOK.1 e.headOK.2.1
    e.headOK.2.2 (by rw [hc]; simp [afterGT, EForm.text]) hp e.preOK
  obtain ⟨c9, hel, haft⟩ := e.parse c c0 (docTailGT m es) hb hr0 hp0 hpv0 (docTailGT_ends m es)
  exact ⟨c9, hel, after_docTailGT m es c9 haft⟩

theorem fails_element_end (m : Nat) : Fails (element ap) (AtE (List.replicate (m - 1) '\n') (m == 0)) := fun c hc => by
  cases m with
  | zero => exact fails_element_atEnd (.same fun c h => cBefore_stays c (.of_end h)) c (.inl hc.2)
  | succ j => exact element_fail_newlines ap c j hc.1 hc.2

theorem many_elems_gaps_end (m : Nat) : ∀ (es : List (Nat × EForm ap)) (fuel : Nat) (c : Cur), es.length < fuel →
    c.rest = afterGT m es → c.pastEnd = (es.isEmpty && m == 0) →
    ∃ c', many (element ap) fuel c = .ok (es.map (·.2.elem)) c' ∧ c'.rest = List.replicate (m - 1) '\n'
      ∧ c'.pastEnd = (m == 0) := fun es fuel c hf =>
  (Run.many_list_stop (·.2.elem) (fun ys => AtE (afterGT m ys) (ys.isEmpty && m == 0)) (fun _ => True)
    (fun x ys _ => run_element_afterGT m x.1 x.2 ys) (fun x ys => AtE.prog (Nat.ne_of_lt (afterGT_lt m x ys)))
    (fails_element_end m) es (fun _ _ => trivial) fuel hf).at c

theorem docTailGT_no_tab (m : Nat) : ∀ (es : List (Nat × EForm ap)), ∀ c ∈ docTailGT m es, c ≠ '\t'
  | [] => by simp [docTailGT]
  | (k, e) :: r => by
    simp only [docTailGT, List.forall_mem_cons, List.forall_mem_append, ne_eq, Char.reduceEq, not_false_eq_true, true_and]
    exact ⟨by simp, e.text_no_tab, docTailGT_no_tab m r⟩

/-- **blank lines between elements and line breaks at the end are inert**: a first element, further elements each after
    any positive number of empty lines, and `m` line breaks after the last one (`m = 1`: the usual file ending) are read as
    exactly their blueprints, in order. -/
theorem parseDoc_elems_gaps_end (m : Nat) (e : EForm ap) (r : List (Nat × EForm ap)) :
    ∃ c', parseDoc ap (docTextGT m e r) = .ok (e.elem :: r.map (·.2.elem)) c' := by
  unfold parseDoc expandTabs
  rw [expandTabsAux_plain 0 (docTextGT m e r) (List.forall_mem_append.mpr ⟨e.text_no_tab, docTailGT_no_tab m r⟩)]
  -- the first element stands at the start of the text, the others after the line break the end rule left
  obtain ⟨cb, hb, hrb, hpb, hpvb⟩ := cBefore_comment { rest := docTextGT m e r } e.pre e.head (e.body ++ docTailGT m r)
    e.headOK.1 e.headOK.2.1 e.headOK.2.2 (by simp [docTextGT, EForm.text]) rfl e.preOK (by intro p hpp; cases hpp)
  obtain ⟨c1, hel, haft⟩ := e.parse _ cb (docTailGT m r) hb hrb hpb hpvb (docTailGT_ends m r)
  have hlt : (afterGT m r).length < (docTextGT m e r).length := by
    have := e.text_length; have := afterGT_le m r
    simp only [docTextGT, List.length_append]; omega
  have hdoc : Run (document ap) (e.elem :: r.map (·.2.elem)) (· = { rest := docTextGT m e r }) (fun _ => True) := by
    refine .bind (.manyF_cons_list_stop (γ := Nat × EForm ap) (·.2.elem) (afterGT m) (fun ys => ys.isEmpty && m == 0)
      (fun _ => True) (fun x ys _ => run_element_afterGT m x.1 x.2 ys) (afterGT_lt m) (fails_element_end m) (0, e) r
      (fun _ _ => trivial) (.of_eq hel (after_docTailGT m r c1 haft)) (fun c hc => hc ▸ hlt)) ?_
    cases m with
    | zero =>
      exact .bind (.same fun c hc => skipNl_stays c (.of_pastEnd hc.2))
        (.bind (fun c hc => let ⟨c9, h⟩ := stringEnd_eof c (skipWs_rest_nil c hc.1); ⟨c9, h, trivial⟩) .pure)
    | succ j =>
      exact .bind (.of_at fun c hc hp => let ⟨c3, h, hr⟩ := skipNl_newlines c j hc hp; ⟨c3, h, (hr : (fun c => c.rest = []) c3)⟩)
        (.bind (fun c hc => let ⟨c9, h⟩ := stringEnd_eof c (skipWs_rest_nil c hc); ⟨c9, h, trivial⟩) .pure)
  obtain ⟨c9, h9, _⟩ := hdoc _ rfl
  exact ⟨c9, h9⟩

/-! the renderer's layout: one empty line between elements, nothing after the last -/

def docTailE : List (EForm ap) → Str
  | [] => []
  | e :: es => '\n' :: '\n' :: (e.text ++ docTailE es)

def afterE : List (EForm ap) → Str
  | [] => []
  | e :: es => '\n' :: (e.text ++ docTailE es)

def docTextE : List (EForm ap) → Str
  | [] => []
  | e :: es => e.text ++ docTailE es

theorem docTextE_one {ap : Bool} (e : EForm ap) : docTextE [e] = e.text := by simp [docTextE, docTailE]

theorem docTailGT_zeroE : ∀ r : List (EForm ap), docTailGT 0 (r.map fun x => (0, x)) = docTailE r
  | [] => rfl
  | x :: xs => by simp [docTailGT, docTailE, docTailGT_zeroE xs]

theorem afterGT_zeroE (es : List (EForm ap)) : afterGT 0 (es.map fun x => (0, x)) = afterE es := by
  cases es <;> simp [afterGT, afterE, docTailGT_zeroE]

theorem many_elems : ∀ (es : List (EForm ap)) (fuel : Nat) (c : Cur), es.length < fuel →
    c.rest = afterE es → c.pastEnd = es.isEmpty →
    ∃ c', many (element ap) fuel c = .ok (es.map (·.elem)) c' ∧ c'.rest = [] ∧ c'.pastEnd = true := by
  intro es fuel c hf hc hp
  simpa [List.map_map, Function.comp_def] using
    many_elems_gaps_end 0 (es.map fun x => (0, x)) fuel c (by simpa using hf) (by rw [hc, afterGT_zeroE]) (by simpa using hp)

/-- **the document rule reads a sequence of element forms as exactly their blueprints, in order** -/
theorem parseDoc_elems (es : List (EForm ap)) (hne : es ≠ []) :
    ∃ c', parseDoc ap (docTextE es) = .ok (es.map (·.elem)) c' := by
  obtain ⟨e, r, rfl⟩ := List.exists_cons_of_ne_nil hne
  simpa [docTextGT, docTextE, docTailGT_zeroE, List.map_map, Function.comp_def] using
    parseDoc_elems_gaps_end 0 e (r.map fun x => (0, x))

theorem docTextE_join : ∀ (es : List (EForm ap)), joinWith (lit "\n\n") (es.map (·.text)) = docTextE es
  | [] => rfl
  | e :: r => joinWith_map_cons (lit "\n\n") (·.text) docTailE rfl (fun x xs => by simp [docTailE, lit]) e r

end C02
end PyDBML
