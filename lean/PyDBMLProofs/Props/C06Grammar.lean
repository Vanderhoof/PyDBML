/-
C06 (column-less table) and C08 (index subjects): what every table blueprint the grammar model produces looks
like, for ANY input text; and how a fact about table blueprints is carried from the table rule to the document.
-/
import PyDBMLProofs.Hoare
namespace PyDBML
namespace C06
open Lex Grammar Hoare Bp

def IdxBpOK (ix : IdxBp) : Prop := ix.subjects ≠ []

def TableBpOK (tb : TableBp) : Prop :=
  tb.columns ≠ [] ∧ ∀ ixs, tb.indexes = some ixs → ∀ ix ∈ ixs, IdxBpOK ix

theorem post_singleIndex : Post singleIndex (fun c => c.subjects ≠ []) := by
  unfold singleIndex
  exact post_bind' (fun s => post_bind' (fun c1 => post_bind' (fun st => post_pure _ (by simp))))

theorem post_compositeIndex : Post compositeIndex (fun c => c.subjects ≠ []) := by
  unfold compositeIndex
  exact post_bind' (fun _ => post_bind' (fun s => post_bind' (fun ss => post_bind' (fun _ =>
    post_bind' (fun c1 => post_bind' (fun st => post_pure _ (by simp)))))))

theorem post_indexRule : Post indexRule IdxBpOK := by
  unfold indexRule
  refine post_bind' (fun before => post_bind (post_orLongest post_singleIndex post_compositeIndex)
    (fun core hcore => post_bind' (fun c3 => post_pure _ ?_)))
  exact hcore

theorem post_indexesRule : Post indexesRule (fun is => ∀ ix ∈ is, IdxBpOK ix) := by
  unfold indexesRule
  refine post_bind' (fun _ => post_bind' (fun _ => post_cut (post_bind' (fun _ =>
    post_bind (post_many1 post_indexRule) (fun is his => post_bind' (fun _ => post_bind' (fun _ =>
      post_pure _ his.2)))))))

def TblElemOK (e : TblElem) : Prop := ∀ is, e = .indexes is → ∀ ix ∈ is, IdxBpOK ix

theorem post_tableElement (props : Bool) : Post (tableElement props) TblElemOK := by
  unfold tableElement
  refine post_bind' (fun _ => post_bind (R := TblElemOK) ?_ (fun r hr => post_bind' (fun _ => post_pure r hr)))
  refine post_alt (post_bind' (fun c => post_pure _ (by intro is h; cases h))) ?_
  refine post_alt (post_bind' (fun c => post_pure _ (by intro is h; cases h))) ?_
  refine post_alt (post_bind post_indexesRule (fun is his => post_pure _ (by intro is' h; cases h; exact his))) ?_
  split
  · refine post_bind' (fun kv => ?_)
    obtain ⟨k, v⟩ := kv
    exact post_pure _ (by intro is h; cases h)
  · exact post_pfail

theorem post_tableRule_body (props : Bool) {QE : TblElem → Prop} (hE : Post (tableElement props) QE) :
    Post (tableRule props) fun tb => tb.columns ≠ [] ∧ ∃ els : List TblElem, (∀ e ∈ els, QE e)
      ∧ tb.columns = els.filterMap (fun x => match x with | .column c => some c | _ => none)
      ∧ tb.indexes = (els.filterMap fun x => match x with | .indexes is => some is | _ => none).head?
      ∧ tb.props =
          if (els.filterMap fun x => match x with | .prop k v => some (k, v) | _ => none).isEmpty then none
          else some (dictOf (els.filterMap fun x => match x with | .prop k v => some (k, v) | _ => none)) := by
  unfold tableRule
  refine post_bind' (fun before => post_bind' (fun _ => post_bind' (fun sn => ?_)))
  obtain ⟨schema, nm⟩ := sn
  refine post_bind' (fun al => post_bind' (fun st => post_bind' (fun _ => post_bind' (fun _ => post_cut ?_))))
  refine post_bind (post_manyF hE) (fun els hels => post_bind' (fun _ =>
    post_bind' (fun _ => post_bind' (fun _ => ?_))))
  dsimp only
  split
  · exact post_pexn _
  · rename_i hne
    exact post_pure _ ⟨fun h => hne (List.isEmpty_iff.mpr h), els, hels, rfl, rfl, rfl⟩

theorem post_tableRule (props : Bool) : Post (tableRule props) TableBpOK := by
  refine post_weaken (post_tableRule_body props (post_tableElement props)) ?_
  rintro tb ⟨hc, els, hels, _, hix, _⟩
  refine ⟨hc, fun ixs hixs ix hix' => ?_⟩
  -- the first `indexes` block among the elements
  obtain ⟨x, hx, hxe⟩ := List.mem_filterMap.mp (List.mem_of_mem_head? (hix ▸ hixs))
  cases x <;> simp at hxe
  subst hxe
  exact hels _ hx _ rfl ix hix'

theorem post_document_tables (props : Bool) {Q : TableBp → Prop} (h : Post (tableRule props) Q) :
    Post (document props) fun es => ∀ tb, Elem.table tb ∈ es → Q tb := by
  unfold document
  refine post_bind (post_manyF (Q := fun e => ∀ tb, e = .table tb → Q tb) ?_) (fun es hes =>
    post_bind' (fun _ => post_bind' (fun _ => post_pure _ fun tb htb => hes _ htb tb rfl)))
  unfold element
  refine post_alt (post_bind h (fun t ht => post_pure _ fun tb e => Elem.table.inj e ▸ ht)) ?_
  -- an element of another kind is no table (`cases`, not `nofun`: the `nomatch` it compiles costs twenty times as much here)
  refine post_alt (post_bind' (fun r => post_pure _ (by intro tb e; cases e))) ?_
  refine post_alt (post_bind' (fun r => post_pure _ (by intro tb e; cases e))) ?_
  refine post_alt (post_bind' (fun r => post_pure _ (by intro tb e; cases e))) ?_
  exact post_alt (post_bind' (fun r => post_pure _ (by intro tb e; cases e)))
    (post_bind' (fun r => post_pure _ (by intro tb e; cases e)))

/-- **C06, for any text**: no table without columns ever leaves the grammar (such a declaration ends in the
    `SyntaxError` of `parse_table`, see `tableRule`), and no index without a subject. -/
theorem parseDoc_tables_ok (props : Bool) (text : Str) (es : List Elem) (c : Cur)
    (h : parseDoc props text = .ok es c) :
    ∀ tb, Elem.table tb ∈ es → tb.columns ≠ [] ∧ ∀ ixs, tb.indexes = some ixs → ∀ ix ∈ ixs, ix.subjects ≠ [] :=
  post_document_tables props (post_tableRule props) _ _ _ h

end C06
end PyDBML
