/-
C13 — note normalisation (`NoteBlueprint._preformat_text`: remove_indentation ∘ strip_empty_lines) is idempotent,
for texts without "exotic" blank lines.

Both functions are read on the lines of the text.  `strip_empty_lines` yields, and fixes, a text whose first and
last line are not `[ \t]*`, or one of a few all-blank texts (`BlankAtom`).  Cutting the common indentation keeps the
first and last line non-blank (`stripEmptyLines_norm`), and cutting it twice is cutting it once
(`removeIndentation_idem`).  Exotic blank lines are excluded: `strip_empty_lines` keeps one as first or last line,
`remove_indentation` does not measure it, and the cut can leave nothing of it but blanks.
-/
import PyDBMLModel
import PyDBMLProofs.Props.C14
namespace PyDBML
namespace C13
open C14

theorem all_of_dropWhile_nil {α} (p : α → Bool) (l : List α) (h : l.dropWhile p = []) : ∀ x ∈ l, p x = true := by
  have := List.takeWhile_append_dropWhile (p := p) (l := l)
  rw [h, List.append_nil] at this
  exact List.all_eq_true.mp (this ▸ List.all_takeWhile)

theorem dropWhile_eq_self {α} {p : α → Bool} {l : List α} (h : ∃ a ∈ l.head?, p a = false) : l.dropWhile p = l := by
  obtain ⟨a, ha, hp⟩ := h
  obtain ⟨r, rfl⟩ := List.head?_eq_some_iff.mp ha
  exact List.dropWhile_cons_of_neg (by simp [hp])

theorem dropWhile_concat {α} {p : α → Bool} (l : List α) {a : α} (ha : p a = false) :
    (l ++ [a]).dropWhile p = l.dropWhile p ++ [a] := by
  induction l with
  | nil => simp [ha]
  | cons x l ih => by_cases hx : p x = true <;> simp [hx, ih]

def trim {α} (p : α → Bool) (l : List α) : List α := ((l.dropWhile p).reverse.dropWhile p).reverse

theorem trim_subset {α} (p : α → Bool) (l : List α) : trim p l ⊆ l := fun _ hl =>
  List.dropWhile_subset _ (List.mem_reverse.mp (List.dropWhile_subset _ (List.mem_reverse.mp hl)))

def Trimmed {α} (p : α → Bool) (l : List α) : Prop :=
  (∃ a ∈ l.head?, p a = false) ∧ ∃ b ∈ l.getLast?, p b = false

theorem trimmed_trim {α} (p : α → Bool) (l : List α) (h : l.dropWhile p ≠ []) : Trimmed p (trim p l) := by
  obtain ⟨a, as, hX⟩ := List.exists_cons_of_ne_nil h
  have ha : p a = false := by
    have := List.head?_dropWhile_not p l
    rwa [hX] at this
  have hw := List.head?_dropWhile_not p as.reverse
  rw [trim, hX, List.reverse_cons, dropWhile_concat _ ha]
  cases hW : as.reverse.dropWhile p with
  | nil => exact ⟨⟨a, rfl, ha⟩, a, rfl, ha⟩
  | cons w ws =>
    rw [hW] at hw
    exact ⟨⟨a, by rw [List.head?_reverse, List.getLast?_concat]; rfl, ha⟩, w, by rw [List.getLast?_reverse]; rfl, hw⟩

theorem Trimmed.ne_nil {α} {p : α → Bool} {l : List α} (h : Trimmed p l) : l ≠ [] := by rintro rfl; simpa using h.1

theorem Trimmed.dropWhile_eq {α} {p : α → Bool} {l : List α} (h : Trimmed p l) : l.dropWhile p = l :=
  dropWhile_eq_self h.1

theorem Trimmed.trim_eq {α} {p : α → Bool} {l : List α} (h : Trimmed p l) : trim p l = l := by
  rw [trim, h.dropWhile_eq, dropWhile_eq_self (l := l.reverse) (by simpa using h.2), List.reverse_reverse]

theorem Trimmed.map {α} {p : α → Bool} {l : List α} (h : Trimmed p l) (f : α → α)
    (hf : ∀ a ∈ l, p a = false → p (f a) = false) : Trimmed p (l.map f) := by
  obtain ⟨⟨a, ha, hab⟩, b, hb, hbb⟩ := h
  exact ⟨⟨f a, by simp [Option.mem_def.mp ha], hf a (List.mem_of_mem_head? ha) hab⟩,
    f b, by simp [Option.mem_def.mp hb], hf b (List.mem_of_mem_getLast? hb) hbb⟩

theorem blankHT_isSpace (c : Char) (h : isBlankHT c = true) : isSpaceChar c = true := by
  simp [isBlankHT] at h
  rcases h with rfl | rfl <;> decide

/-- the lines `remove_indentation` measures: non-empty and not whitespace-only -/
def counted (l : Str) : Bool := !l.isEmpty && !isSpaceStr l

theorem counted_eq (l : Str) : counted l = !l.all isSpaceChar := by
  cases l <;> simp [counted, isSpaceStr]

theorem not_counted_of_blank (l : Str) (h : isBlankLine l = true) : counted l = false := by
  rw [counted_eq, Bool.not_eq_false', List.all_eq_true]
  exact fun c hc => blankHT_isSpace c (List.all_eq_true.mp h c hc)

theorem counted_iff (l : Str) (hx : exoticBlankLine l = false) : counted l = !isBlankLine l := by
  cases hb : isBlankLine l
  · cases hs : l.all isSpaceChar
    · rw [counted_eq, hs]
    · -- whitespace-only and not `[ \t]*`: exotic
      cases l with
      | nil => cases hb
      | cons a r => simp [exoticBlankLine, isSpaceStr, hs, show (a :: r).all isBlankHT = false from hb] at hx
  · exact not_counted_of_blank l hb

theorem blank_drop (l : Str) (k : Nat) (h : isBlankLine l = true) : isBlankLine (l.drop k) = true := by
  simp only [isBlankLine, List.all_eq_true] at h ⊢
  exact fun x hx => h x (List.mem_of_mem_drop hx)

theorem not_counted_drop (l : Str) (k : Nat) (h : counted l = false) : counted (l.drop k) = false := by
  rw [counted_eq, Bool.not_eq_false', List.all_eq_true] at h ⊢
  exact fun x hx => h x (List.mem_of_mem_drop hx)

theorem line_shape (w : Str) (x : Char) (r : Str) (hw : ∀ c ∈ w, isSpaceChar c = true) (hx : isSpaceChar x = false) :
    counted (w ++ x :: r) = true ∧ leadingSpaces (w ++ x :: r) = w.length ∧ isBlankLine (w ++ x :: r) = false := by
  refine ⟨?_, ?_, ?_⟩
  · simp [counted_eq, hx]
  · simp [leadingSpaces, List.takeWhile_append_of_pos hw, hx]
  · have : isBlankHT x = false := Bool.eq_false_iff.mpr fun hb => by simp [blankHT_isSpace x hb] at hx
    simp [isBlankLine, this]

theorem counted_shape (l : Str) (h : counted l = true) : ∃ x r, l = l.takeWhile isSpaceChar ++ x :: r ∧ isSpaceChar x = false := by
  cases hd : l.dropWhile isSpaceChar with
  | nil =>
    have := List.all_eq_true.mpr (all_of_dropWhile_nil _ l hd)
    simp [counted_eq, this] at h
  | cons x r =>
    have := List.head?_dropWhile_not isSpaceChar l
    rw [hd] at this
    exact ⟨x, r, hd ▸ List.takeWhile_append_dropWhile.symm, this⟩

theorem counted_drop (l : Str) (k : Nat) (h : counted l = true) (hk : k ≤ leadingSpaces l) :
    counted (l.drop k) = true ∧ leadingSpaces (l.drop k) = leadingSpaces l - k
      ∧ isBlankLine (l.drop k) = false := by
  obtain ⟨x, r, hl, hx⟩ := counted_shape l h
  have := line_shape ((l.takeWhile isSpaceChar).drop k) x r
    (fun c hc => List.all_eq_true.mp List.all_takeWhile c (List.mem_of_mem_drop hc)) hx
  rwa [← List.drop_append_of_le_length hk, ← hl, List.length_drop] at this

theorem minList_eq_min? : ∀ L : List Nat, minList L = L.min?
  | [] => rfl
  | a :: as => by
    rw [minList, minList_eq_min? as, List.min?_cons]
    cases as.min? <;> rfl

abbrev indent (M : List Str) : Option Nat := ((M.filter counted).map leadingSpaces).min?

theorem removeIndentation_eq (s : Str) : removeIndentation s =
    match indent (splitNL s) with
    | none => s
    | some k => joinNL ((splitNL s).map (·.drop k)) := by
  rw [indent, ← minList_eq_min?]
  cases s with
  | nil => decide
  | cons c r =>
    generalize h : splitNL (c :: r) = L   -- or `rfl` unfolds `splitNL` at length
    simp only [removeIndentation, List.isEmpty_cons, Bool.false_eq_true, ↓reduceIte, h]
    rfl

theorem indent_eq_some {M : List Str} {k : Nat} : indent M = some k ↔
    (∃ l ∈ M, counted l = true ∧ leadingSpaces l = k) ∧ ∀ l ∈ M, counted l = true → k ≤ leadingSpaces l := by
  simp only [indent, List.min?_eq_some_iff, List.mem_map, List.mem_filter, and_assoc]
  exact and_congr_right fun _ => ⟨fun h l hl hc => h _ ⟨l, hl, hc, rfl⟩, fun h _ ⟨l, hl, hc, e⟩ => e ▸ h l hl hc⟩

theorem removeIndentation_fixed (s : Str) (l : Str) (hl : l ∈ splitNL s) (hc : counted l = true)
    (hz : leadingSpaces l = 0) : removeIndentation s = s := by
  rw [removeIndentation_eq, indent_eq_some.mpr ⟨⟨l, hl, hc, hz⟩, fun _ _ _ => Nat.zero_le _⟩]
  simp [joinNL_splitNL]

theorem drop_no_nl {M : List Str} (hnl : ∀ l ∈ M, '\n' ∉ l) (k : Nat) : ∀ l ∈ M.map (·.drop k), '\n' ∉ l := by
  intro l hl hm
  obtain ⟨l', hl', rfl⟩ := List.mem_map.mp hl
  exact hnl l' hl' (List.mem_of_mem_drop hm)

/-- idempotent on every text: a line with the smallest indentation has indentation 0 afterwards -/
theorem removeIndentation_idem (s : Str) : removeIndentation (removeIndentation s) = removeIndentation s := by
  cases hk : indent (splitNL s) with
  | none =>
    have : removeIndentation s = s := by rw [removeIndentation_eq, hk]
    rw [this, this]
  | some k =>
    have : removeIndentation s = joinNL ((splitNL s).map (·.drop k)) := by rw [removeIndentation_eq, hk]
    obtain ⟨⟨l, hl, hc, rfl⟩, _⟩ := indent_eq_some.mp hk
    obtain ⟨hc', hz, _⟩ := counted_drop l _ hc (Nat.le_refl _)
    rw [this]
    refine removeIndentation_fixed _ (l.drop (leadingSpaces l)) ?_ hc' (by omega)
    rw [splitNL_joinNL _ (by simp [splitNL_ne_nil]) (drop_no_nl (splitNL_no_nl s) _)]
    exact List.mem_map.mpr ⟨l, hl, rfl⟩

theorem stripEmptyLines_eq (s : Str) (h : (splitNL s).dropWhile isBlankLine ≠ []) :
    stripEmptyLines s = joinNL (trim isBlankLine (splitNL s)) := by
  cases s with
  | nil => exact absurd rfl h
  | cons c r =>
    unfold stripEmptyLines
    simp only [List.isEmpty_cons, Bool.false_eq_true, ↓reduceIte]
    rfl

theorem stripEmptyLines_fixed (M : List Str) (hnl : ∀ l ∈ M, '\n' ∉ l) (hT : Trimmed isBlankLine M) :
    stripEmptyLines (joinNL M) = joinNL M := by
  have hs := splitNL_joinNL M hT.ne_nil hnl
  rw [stripEmptyLines_eq _ (by rw [hs, hT.dropWhile_eq]; exact hT.ne_nil), hs, hT.trim_eq]

/-- what `strip_empty_lines` gives on an all-blank text -/
def BlankAtom (u : Str) : Prop := u = ['\n'] ∨ ('\n' ∉ u ∧ isBlankLine u = true)

theorem blankAtom_fixed (u : Str) (h : BlankAtom u) : stripEmptyLines u = u ∧ removeIndentation u = u := by
  rcases h with rfl | ⟨hnl, hb⟩
  · exact ⟨by decide, by decide⟩
  · have hsp : splitNL u = [u] := splitNL_no_nl_self u hnl
    refine ⟨?_, by simp [removeIndentation_eq, hsp, indent, not_counted_of_blank u hb]⟩
    cases u with
    | nil => rfl
    | cons c r => simp [stripEmptyLines, hsp, hb]

theorem stripEmptyLines_all_blank (s : Str) (hX : (splitNL s).dropWhile isBlankLine = []) : BlankAtom (stripEmptyLines s) := by
  have atom : ∀ l ∈ (splitNL s).reverse, BlankAtom l := fun l hl =>
    have hl := List.mem_reverse.mp hl
    Or.inr ⟨splitNL_no_nl s l hl, all_of_dropWhile_nil _ _ hX l hl⟩
  have nil : BlankAtom [] := Or.inr ⟨List.not_mem_nil, rfl⟩
  unfold stripEmptyLines
  split
  · exact nil
  · simp only [hX]
    split
    next ln lp _ hr =>
      rw [hr] at atom
      split
      · exact atom ln List.mem_cons_self
      · split
        · exact atom lp (List.mem_cons_of_mem _ List.mem_cons_self)
        · exact Or.inl rfl
    next ln hr => exact atom ln (hr ▸ List.mem_cons_self)
    next => exact nil

theorem stripEmptyLines_norm (s : Str) (hx : noExoticBlank s = true) : stripEmptyLines (norm s) = norm s := by
  unfold norm
  by_cases hX : (splitNL s).dropWhile isBlankLine = []
  · obtain ⟨h1, h2⟩ := blankAtom_fixed _ (stripEmptyLines_all_blank s hX)
    rw [h2, h1]
  · have hT := trimmed_trim _ _ hX
    have hML := trim_subset isBlankLine (splitNL s)
    have hnl : ∀ l ∈ trim isBlankLine (splitNL s), '\n' ∉ l := fun l hl => splitNL_no_nl s l (hML hl)
    have hex : ∀ l ∈ splitNL s, exoticBlankLine l = false := by simpa [noExoticBlank] using hx
    rw [stripEmptyLines_eq s hX, removeIndentation_eq, splitNL_joinNL _ hT.ne_nil hnl]
    cases hk : indent (trim isBlankLine (splitNL s)) with
    | none => exact stripEmptyLines_fixed _ hnl hT
    | some k =>
      -- a first or last line stays non-blank: it is measured, so `k` is at most its indentation
      refine stripEmptyLines_fixed _ (drop_no_nl hnl k) (hT.map _ fun l hl hb => ?_)
      have hc : counted l = true := by rw [counted_iff l (hex l (hML hl)), hb]; rfl
      exact (counted_drop l k hc ((indent_eq_some.mp hk).2 l hl hc)).2.2

/-- idempotent on every text without exotic blank lines (whitespace-only without being `[ \t]*`: CR of CRLF
    files, NBSP, VT, FF …) -/
theorem norm_idem (s : Str) (hx : noExoticBlank s = true) : norm (norm s) = norm s := by
  rw [norm, stripEmptyLines_norm s hx]
  exact removeIndentation_idem _

/-- the hypothesis is tight: with a lone CR as last line (a CRLF text) normalisation is NOT idempotent - in the model
    and in the code (known finding `KF-C13-exotic-blank`, replayed by the check on the implementation) -/
theorem norm_not_idem_exotic : norm (norm (lit " a\n\r")) ≠ norm (lit " a\n\r") := by decide

/-- non-vacuity: an indented multi-line text with blank lines meets the hypothesis and is changed by `norm` -/
example : noExoticBlank (lit "\n\n    a\n\n      b\n  \n") = true
    ∧ norm (lit "\n\n    a\n\n      b\n  \n") = lit "a\n\n  b" := by
  repeat rw [lit_eq rfl]
  decide

end C13
end PyDBML
