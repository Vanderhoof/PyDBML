/-
C13 (lexical layer) — a text written with the DBML renderer's escaping is read back to itself and cannot end its
literal early.  The renderer writes `\'`, `\\`, `\'''` or a plain character at a time; each scan of the grammar passes
over one such chunk and goes on with the rest: the theorems are inductions along `prepareTextForDbml`.
-/
import PyDBMLProofs.Cursor
namespace PyDBML
namespace C13
open Lex

/- `re.sub(r"('''|'|\\\\)", r'\\\1', text)` at the head of a text (stated for themselves: the inductions below take the
   same cases from `fun_induction prepareTextForDbml`). -/

theorem prepare_plain (c : Char) (r : Str) (h1 : c ≠ '\'') (h2 : c ≠ '\\') :
    prepareTextForDbml (c :: r) = c :: prepareTextForDbml r := by
  simp [prepareTextForDbml, h1]

theorem prepare_backslash (r : Str) :
    prepareTextForDbml ('\\' :: r) = '\\' :: '\\' :: prepareTextForDbml r := by
  simp [prepareTextForDbml]

theorem prepare_triple (r : Str) :
    prepareTextForDbml ('\'' :: '\'' :: '\'' :: r) = '\\' :: '\'' :: '\'' :: '\'' :: prepareTextForDbml r := by
  simp [prepareTextForDbml]

theorem prepare_quote (r : Str) (hr : ∀ r', r ≠ '\'' :: '\'' :: r') :
    prepareTextForDbml ('\'' :: r) = '\\' :: '\'' :: prepareTextForDbml r := by
  simp [prepareTextForDbml]

theorem prepare_head (t : Str) (ht : t ≠ []) : ∃ c r, prepareTextForDbml t = c :: r ∧ c ≠ '\'' := by
  fun_cases prepareTextForDbml t with
  | case1 r => exact ⟨_, _, rfl, by decide⟩
  | case2 r hr => exact ⟨_, _, rfl, by decide⟩
  | case3 r => exact ⟨_, _, rfl, by decide⟩
  | case4 c r h1 h2 h3 => exact ⟨c, _, rfl, h2⟩
  | case5 => exact absurd rfl ht

theorem unquote_plain (e d : Bool) (c : Char) (r : Str) (hc : c ≠ '\\') :
    unquoteAux e d 0 (c :: r) = c :: unquoteAux e d 0 r := by
  have : unquoteStep e d (c :: r) = ([c], 1) := by simp [unquoteStep.eq_def, hc]
  rw [unquoteAux, this]; rfl

theorem unquote_esc_quote (d : Bool) (r : Str) :
    unquoteAux true d 0 ('\\' :: '\'' :: r) = '\'' :: unquoteAux true d 0 r := by
  cases d <;> rfl

theorem unquote_esc_bs (d : Bool) (r : Str) :
    unquoteAux true d 0 ('\\' :: '\\' :: r) = '\\' :: unquoteAux true d 0 r := by
  cases d <;> rfl

/-- reading back what the renderer's escaping wrote gives the text itself, in a one-line (`d = false`) as in a
    multi-line literal -/
theorem unquote_prepare (d : Bool) (t : Str) : unquote true d (prepareTextForDbml t) = t := by
  unfold unquote
  fun_induction prepareTextForDbml t with
  | case1 r ih =>
    rw [unquote_esc_quote, unquote_plain _ _ '\'' _ (by decide), unquote_plain _ _ '\'' _ (by decide), ih]
  | case2 r hr ih => rw [unquote_esc_quote, ih]
  | case3 r ih => rw [unquote_esc_bs, ih]
  | case4 c r h1 h2 h3 ih => rw [unquote_plain _ _ c _ h3, ih]
  | case5 => rfl

def oneLine (t : Str) : Bool := !t.any fun c => c = '\n' || c = '\r'

theorem oneLine_cons {c : Char} {r : Str} (h : oneLine (c :: r) = true) : (c ≠ '\n' ∧ c ≠ '\r') ∧ oneLine r = true := by
  simp only [oneLine, List.any_cons, Bool.not_or, Bool.and_eq_true, Bool.not_eq_true', decide_eq_false_iff_not] at h ⊢
  exact h

theorem hasTriple_cons (c : Char) (r : Str) (h : hasTriple (c :: r) = false) : hasTriple r = false := by
  rw [hasTriple.eq_def] at h
  split at h <;> simp_all

theorem scanQ1_esc {q : Char} {r b rest : Str} (d : Char) (hd : d ≠ '\n') (h : scanQ1 q r = some (b, rest)) :
    scanQ1 q ('\\' :: d :: r) = some ('\\' :: d :: b, rest) := by
  simp [scanQ1, hd, h]

theorem scanQ1_plain {q : Char} {r b rest : Str} (c : Char) (h1 : c ≠ q) (h2 : c ≠ '\n' ∧ c ≠ '\r') (h3 : c ≠ '\\')
    (h : scanQ1 q r = some (b, rest)) : scanQ1 q (c :: r) = some (c :: b, rest) := by
  simp [scanQ1, h1, h2, h3, h]

theorem scanQ1_close (q : Char) (r : Str) (hq : q ≠ '\\') : scanQ1 q (q :: r) = some ([], r) := by
  simp [scanQ1, hq]

/-- a one-line text without `'''` written as `'` + escaped text + `'` is scanned exactly up to its closing quote:
    whatever it contains, it cannot end the literal early nor swallow what follows -/
theorem scanQ1_prepare (t rest : Str) (h1 : oneLine t = true) (h3 : hasTriple t = false) :
    scanQ1 '\'' (prepareTextForDbml t ++ '\'' :: rest) = some (prepareTextForDbml t, rest) := by
  fun_induction prepareTextForDbml t with
  | case1 r ih => simp [hasTriple] at h3
  | case2 r hr ih => exact scanQ1_esc _ (by decide) (ih (oneLine_cons h1).2 (hasTriple_cons _ _ h3))
  | case3 r ih => exact scanQ1_esc _ (by decide) (ih (oneLine_cons h1).2 (hasTriple_cons _ _ h3))
  | case4 c r hc1 hc2 hc3 ih =>
    exact scanQ1_plain c hc2 (oneLine_cons h1).1 hc3 (ih (oneLine_cons h1).2 (hasTriple_cons _ _ h3))
  | case5 => exact scanQ1_close '\'' rest (by decide)

theorem scanQ3_esc {r b rest : Str} (d : Char) (h : scanQ3 r = some (b, rest)) :
    scanQ3 ('\\' :: d :: r) = some ('\\' :: d :: b, rest) := by
  simp [scanQ3, h]

theorem scanQ3_close (r : Str) : scanQ3 ('\'' :: '\'' :: '\'' :: r) = some ([], r) := by
  simp [scanQ3]

theorem scanQ3_plain {r b rest : Str} (c : Char) (h1 : c ≠ '\'') (h2 : c ≠ '\\') (h : scanQ3 r = some (b, rest)) :
    scanQ3 (c :: r) = some (c :: b, rest) := by
  simp [scanQ3, h1, h2, h]

theorem scanQ3_two {r b rest : Str} (x : Char) (hx : x ≠ '\'') (h : scanQ3 (x :: r) = some (b, rest)) :
    scanQ3 ('\'' :: '\'' :: x :: r) = some ('\'' :: '\'' :: b, rest) := by
  simp [scanQ3, hx, h]

theorem endsTriple_tail (c : Char) (r : Str) (hc : ∀ r', c :: r ≠ '\'' :: '\'' :: '\'' :: r')
    (h : endsTriple (c :: r) = false) : endsTriple r = false := by
  rw [endsTriple.eq_def] at h
  split at h
  · rename_i h0; exact absurd h0 (hc _)
  · rename_i h0; exact absurd h0 (hc _)
  · rename_i h0; simp at h0; obtain ⟨_, rfl⟩ := h0; exact h
  · rename_i h0; simp at h0

/-- A text written as `'''` + escaped text + `'''` is scanned exactly up to its closing quotes,
    unless it ends with a `'''` chunk (the named exclusion `TripleQuote`). -/
theorem scanQ3_prepare (t rest : Str) (h : endsTriple t = false) :
    scanQ3 (prepareTextForDbml t ++ '\'' :: '\'' :: '\'' :: rest) = some (prepareTextForDbml t, rest) := by
  fun_induction prepareTextForDbml t with
  | case1 r ih =>
    -- the two quotes of `\'''` stay in the body, as the next chunk does not begin with a quote
    cases r with
    | nil => simp [endsTriple] at h
    | cons a as =>
      obtain ⟨c, r', hp, hc⟩ := prepare_head (a :: as) (List.cons_ne_nil a as)
      have := ih (by simpa [endsTriple] using h)
      rw [hp] at this ⊢
      exact scanQ3_esc _ (scanQ3_two c hc this)
  | case2 r hr ih =>
    exact scanQ3_esc _ (ih (endsTriple_tail _ r (fun r' e => hr _ (List.cons.inj e).2) h))
  | case3 r ih =>
    exact scanQ3_esc _ (ih (endsTriple_tail '\\' r (fun r' e => absurd (List.cons.inj e).1 (by decide)) h))
  | case4 c r hc1 hc2 hc3 ih =>
    exact scanQ3_plain c hc2 hc3 (ih (endsTriple_tail c r (fun r' e => hc2 (List.cons.inj e).1) h))
  | case5 => exact scanQ3_close rest

theorem stringLiteral_ok_one_line (c : Cur) (t r : Str)
    (hn : (skipWs c).rest = '\'' :: (prepareTextForDbml t ++ '\'' :: r)) (hp : c.pastEnd = false)
    (h1 : oneLine t = true) (h3 : hasTriple t = false) (hr : t ≠ [] ∨ r.head? ≠ some '\'') :
    ∃ c', stringLiteral c = .ok t c' ∧ c'.rest = r ∧ c'.pastEnd = false := by
  -- the text does not begin like a `'''` literal
  have hno3 : ∀ r3, prepareTextForDbml t ++ '\'' :: r ≠ '\'' :: '\'' :: r3 := by
    intro r3 e
    by_cases ht : t = []
    · subst ht
      rcases hr with hr | hr
      · exact hr rfl
      · simp [prepareTextForDbml] at e; simp [e] at hr
    · obtain ⟨x, r', hp, hx⟩ := prepare_head t ht
      rw [hp] at e
      exact hx (List.cons.inj e).1
  refine ⟨curAfter (skipWs c) r, ?_, curAfter_rest _ ('\'' :: prepareTextForDbml t ++ ['\'']) r (by simp [hn]),
    (curAfter_pastEnd _ _).trans hp⟩
  unfold stringLiteral
  simp only [C02.skipWs_pastEnd, hp, hn, Bool.false_eq_true, ↓reduceIte, scanQ1_prepare t r h1 h3,
    Option.map_some, unquote_prepare]

theorem stringLiteral_ok_triple (c : Cur) (t r : Str)
    (hn : (skipWs c).rest = '\'' :: '\'' :: '\'' :: (prepareTextForDbml t ++ '\'' :: '\'' :: '\'' :: r))
    (hp : c.pastEnd = false) (h : endsTriple t = false) :
    ∃ c', stringLiteral c = .ok t c' ∧ c'.rest = r ∧ c'.pastEnd = false := by
  refine ⟨curAfter (skipWs c) r, ?_,
    curAfter_rest _ ('\'' :: '\'' :: '\'' :: prepareTextForDbml t ++ ['\'', '\'', '\'']) r (by simp [hn]),
    (curAfter_pastEnd _ _).trans hp⟩
  -- read as a one-line literal it is the empty `''`, which is shorter
  have hlt : r.length < ('\'' :: (prepareTextForDbml t ++ '\'' :: '\'' :: '\'' :: r)).length := by
    simp; omega
  unfold stringLiteral
  simp only [C02.skipWs_pastEnd, hp, hn, Bool.false_eq_true, ↓reduceIte, scanQ1_close '\'' _ (by decide),
    scanQ3_prepare t r h, Option.map_some, hlt, unquote_prepare]

/-- `string_literal` reads a one-line `'…'` literal, as the renderer escapes it, back to the text and stops after the closing quote (`hr`: an empty text
    must not be followed by a quote) -/
theorem stringLiteral_reads_one_line (t rest : Str) (prev : Option Char)
    (h1 : oneLine t = true) (h3 : hasTriple t = false)
    (hr : t ≠ [] ∨ rest.head? ≠ some '\'') :
    ∃ c', stringLiteral { prev := prev, rest := '\'' :: (prepareTextForDbml t ++ '\'' :: rest) } = .ok t c'
        ∧ c'.rest = rest ∧ c'.pastEnd = false :=
  stringLiteral_ok_one_line _ t rest rfl rfl h1 h3 hr

/-- `string_literal` reads a `'''` literal back to the text and stops after the closing quotes (`h`: the text does
    not end with a `'''` chunk, the named exclusion `TripleQuote`) -/
theorem stringLiteral_reads_triple (t rest : Str) (prev : Option Char) (h : endsTriple t = false) :
    ∃ c', stringLiteral { prev := prev, rest := '\'' :: '\'' :: '\'' :: (prepareTextForDbml t ++ '\'' :: '\'' :: '\'' :: rest) }
            = .ok t c'
        ∧ c'.rest = rest ∧ c'.pastEnd = false :=
  stringLiteral_ok_triple _ t rest rfl rfl h

end C13
end PyDBML
