/-
C10 — renderings reflect the current state after edits.  In the content model a database IS its current content
(links are positions, a name is stored once, on its owner), so "identical to a database freshly built with the final
content" is definitional there; the correspondence checks that the real objects behave like that.  Proved here, from
the reader theorems of C03/C04, is the second sentence of the property: no rendering keeps a stale name.
-/
import PyDBMLModel
import PyDBMLProofs.Props.C03Script
namespace PyDBML
namespace C10
open Sql C03 C04

/-- the in-place edit `table.name = n` on the table at position `i` -/
def renameTable (db : Db) (i : Nat) (n : Str) : Db :=
  { db with tables := db.tables.modify i fun t => { t with name := n } }

/-- the in-place edit `column.name = n` on column `j` of table `i` -/
def renameColumn (db : Db) (i j : Nat) (n : Str) : Db :=
  { db with tables := db.tables.modify i fun t => { t with columns := t.columns.modify j fun c => { c with name := n } } }

/-- a reference TO a renamed table, read back, references the new name (schema unchanged) -/
theorem fk_shows_renamed_target (db : Db) (i : Nat) (n : Str) (r : Ref) (t : Table) (hi : db.tables[i]? = some t)
    (hr : (refSides r).2.1 = i) (h : FkReadable (renameTable db i n) r) :
    ∃ line, renderRefTop (renameTable db i n) r = .ok line
      ∧ (readFk line).map (·.dst) = some (qualName t.schema n) := by
  have hrt : rtOf (renameTable db i n) r = { t with name := n } := by
    simp [rtOf, renameTable, hr, List.getElem?_modify_eq, hi]
  refine ⟨_, h.line.1, ?_⟩
  rw [h.line.2, hrt]
  rfl

/-- a reference FROM a renamed table alters the table under its new name -/
theorem fk_shows_renamed_source (db : Db) (i : Nat) (n : Str) (r : Ref) (t : Table) (hi : db.tables[i]? = some t)
    (hr : (refSides r).1.1 = i) (h : FkReadable (renameTable db i n) r) :
    ∃ line, renderRefTop (renameTable db i n) r = .ok line
      ∧ (readFk line).map (·.src) = some (qualName t.schema n) := by
  have hst : stOf (renameTable db i n) r = { t with name := n } := by
    simp [stOf, renameTable, hr, List.getElem?_modify_eq, hi]
  refine ⟨_, h.line.1, ?_⟩
  rw [h.line.2, hst]
  rfl

/-- a reference to a renamed column, read back, shows the new name at that position and the unchanged names elsewhere -/
theorem fk_shows_renamed_column (db : Db) (i j : Nat) (n : Str) (r : Ref) (t : Table) (hi : db.tables[i]? = some t)
    (hr : (refSides r).2.1 = i) (h : FkReadable (renameColumn db i j n) r) :
    ∃ line, renderRefTop (renameColumn db i j n) r = .ok line
      ∧ (readFk line).map (·.dstCols)
        = some ((refSides r).2.2.map fun k => if j = k then (if k < t.columns.length then n else []) else ((t.columns[k]?).map (·.name)).getD []) := by
  have hrt : rtOf (renameColumn db i j n) r = { t with columns := t.columns.modify j fun c => { c with name := n } } := by
    simp [rtOf, renameColumn, hr, List.getElem?_modify_eq, hi]
  refine ⟨_, h.line.1, ?_⟩
  rw [h.line.2, hrt]
  simp only [fkDescOf, namesAt, Option.map_some]
  congr 1
  apply List.map_congr_left
  intro k _
  rw [List.getElem?_modify]
  by_cases hjk : j = k
  · subst hjk
    by_cases hl : j < t.columns.length <;> simp [hl]
  · cases hk : t.columns[k]? <;> simp [hjk]

/-- the statement of a table that bears the name `n`, rendered in the renamed database and read back, shows `n`
    (`hi` is not used: nothing ties `t` to position `i`) -/
theorem table_shows_new_name (db : Db) (i : Nat) (n : Str) (t : Table) (hi : db.tables[i]? = some t)
    (h : Readable (renameTable db i n) { t with name := n }) :
    ∃ text, renderTableWith (renameTable db i n) { t with name := n } [] = .ok text
      ∧ (readTable text).map (·.qname) = some (qualName t.schema n) := by
  obtain ⟨text, h1, h2⟩ := read_render_table (renameTable db i n) { t with name := n } h
  exact ⟨text, h1, by rw [h2]; rfl⟩

end C10
end PyDBML
