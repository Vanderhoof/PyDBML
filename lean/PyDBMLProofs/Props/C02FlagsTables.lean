/-
C02/C05/C14/C15 — documents of tables whose columns carry settings, and references between them: `form_tables_roundtrip`
and `form_refs_roundtrip` at `flagForm`.
-/
import PyDBMLProofs.Props.C02Flags
import PyDBMLProofs.Props.C02FormTables
import PyDBMLProofs.Props.C02FormRefs
namespace PyDBML
namespace C02
open Lex Grammar Build

def flagTable (t : FTab FCol) : Table :=
  { name := t.name, columns := t.cols.map FCol.col, comment := t.comment, note := t.note }

def FlagTabOK (ap : Bool) (t : FTab FCol) : Prop :=
  NameOK t.name ∧ (∀ s ∈ t.cols, s.ok ap) ∧ t.cols ≠ [] ∧ CmOK t.comment ∧ TNoteOK t.note

/-- **C02 (and the round-trip clauses of C14 and C15), documents of tables with column settings, end to end**: any
    positive number of tables with pairwise different names, each possibly under a one-line comment and with a note,
    their columns as `FCol.ok` says, is rendered to DBML and parsed back to exactly the same database: the comments on
    the same tables, columns, settings and properties in the same order.  `hno`: no inline reference
    (`flags_document_roundtrip_partial` covers them). -/
theorem flags_tables_roundtrip_partial (ap : Bool) (ts : List (FTab FCol))
    (hok : ∀ t ∈ ts, FlagTabOK ap t) (hne : ts ≠ []) (hd : ts.Pairwise (fun a b => a.name ≠ b.name))
    (hno : ∀ t ∈ ts, ∀ s ∈ t.cols, s.irefs = []) :
    ∃ text, Dbml.renderDb { tables := ts.map flagTable, allowProps := ap } = .ok text
      ∧ Build.parse ap text = .ok { tables := ts.map flagTable, allowProps := ap } :=
  form_tables_roundtrip flagForm ap ts hok hne hd hno

/-- a test of the statement on one literal -/
example : flagForm.docText [{ name := lit "a", cols := [{ name := lit "id", type := lit "int", pk := true }], comment := some (lit "the a's") },
      { name := lit "b", cols := [{ name := lit "n", type := lit "text", note := lit "x" }, { name := lit "m", type := lit "int" }] }]
    = lit "// the a's\nTable \"a\" {\n    \"id\" int [pk]\n}\n\nTable \"b\" {\n    \"n\" text [note: 'x']\n    \"m\" int\n}" := by
  repeat rw [lit_eq rfl]
  decide +kernel

/-- **C02 / C05 / C14 / C15: such tables AND standalone single-column references between their columns, end to end**:
    the references are resolved - by table and column name - to the very positions they were written from.  The
    hypotheses on names are exactly the recorded findings: no dot in a table name (`hnodot`), a column name is one
    comma-free piece that survives `strip('() ')` (`hcp`), no two columns of one table with one name (`hcn`); `hno`: no
    inline reference (`flags_document_roundtrip_partial`). -/
theorem flags_refs_roundtrip_partial (ap : Bool) (ts : List (FTab FCol)) (rs : List RSpec)
    (hok : ∀ t ∈ ts, FlagTabOK ap t) (hts : ts ≠ [])
    (htn : ts.Pairwise (fun a b => a.name ≠ b.name)) (hnodot : ∀ t ∈ ts, '.' ∉ t.name)
    (hcn : ∀ t ∈ ts, t.cols.Pairwise (fun a b => a.name ≠ b.name))
    (hcp : ∀ t ∈ ts, ∀ c ∈ t.cols, splitComma c.name = [c.name] ∧ stripParenSpace c.name = c.name)
    (hin : ∀ r ∈ rs, ∃ ta tb, ts[r.t1]? = some ta ∧ ts[r.t2]? = some tb ∧ r.c1 < ta.cols.length ∧ r.c2 < tb.cols.length)
    (hrs : rs ≠ []) (hnd : rs.Nodup) (hno : ∀ t ∈ ts, ∀ s ∈ t.cols, s.irefs = []) :
    ∃ text, Dbml.renderDb { tables := ts.map flagTable, refs := rs.map mkRef, allowProps := ap } = .ok text
      ∧ Build.parse ap text = .ok { tables := ts.map flagTable, refs := rs.map mkRef, allowProps := ap } :=
  form_refs_roundtrip flagForm ap ts rs hok (fun t ht s hs => ((hok t ht).2.1 s hs).name) hts
    ⟨htn, hnodot, hcn, hcp⟩ hin hrs hnd hno

/-- a test of the statement on one literal -/
example : flagForm.docTextR [{ name := lit "a", cols := [{ name := lit "id", type := lit "int", pk := true }] },
      { name := lit "b", cols := [{ name := lit "a id", type := lit "int", notNull := true }], comment := some (lit "child") }]
      [flagForm.rtext [{ name := lit "a", cols := [{ name := lit "id", type := lit "int", pk := true }] },
        { name := lit "b", cols := [{ name := lit "a id", type := lit "int", notNull := true }], comment := some (lit "child") }]
        { kind := .manyToOne, t1 := 1, c1 := 0, t2 := 0, c2 := 0 }]
    = lit "Table \"a\" {\n    \"id\" int [pk]\n}\n\n// child\nTable \"b\" {\n    \"a id\" int [not null]\n}\n\nRef {\n    \"b\".\"a id\" > \"a\".\"id\"\n}" := by
  repeat rw [lit_eq rfl]
  decide +kernel

example : CmOK (some (lit "the a's // really")) := ⟨⟨_, _, rfl, by decide⟩, by intro c hc; revert c; decide⟩

end C02
end PyDBML
