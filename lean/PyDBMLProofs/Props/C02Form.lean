/-
C02/C01 — tables generic in the form of their column lines: a `ColForm σ` says how a column `s : σ` is written (`str`), what
the grammar reads from that line (`parse`), what the build makes of it (`build`) and what the renderer writes for the
result (`render`).  C02FormTables.lean carries a form through the table rule, the document, the build and the renderer.
-/
import PyDBMLProofs.Props.C02Table
namespace PyDBML
namespace C02
open Lex Grammar Build

/-- an inline reference as a column's settings write it: its kind and the NAMES of the table and column it points to -/
structure IRefT where
  kind : RefKind
  tn : Str
  cn : Str
  deriving DecidableEq

/-- the blueprint `ref_inline` makes of it -/
def IRefT.bp (r : IRefT) : Bp.RefBp := { kind := r.kind, inline := true, table2 := some r.tn, col2 := some r.cn }

/-- what `render_inline_reference` writes for it -/
def IRefT.text (r : IRefT) : Str :=
  'r' :: 'e' :: 'f' :: ':' :: ' ' :: (r.kind.sym ++ ' ' :: '"' :: (r.tn ++ '"' :: '.' :: '"' :: (r.cn ++ ['"'])))

structure ColForm (σ : Type) where
  /-- the column as the renderer writes it: no indentation, no line break -/
  str : σ → Str
  bp : σ → Bp.ColBp
  col : σ → Column
  /-- what makes the column readable back, under a given value of the properties switch -/
  ok : Bool → σ → Prop
  /-- serves `body_endOK` only: nothing between elements starts at a column line -/
  quoted : ∀ s, ∃ r, str s = '"' :: r
  parse : ∀ (props : Bool) (c : Cur) (s : σ) (rest : Str),
    c.rest = ' ' :: ' ' :: ' ' :: ' ' :: (str s ++ '\n' :: rest) → c.pastEnd = false → ok props s →
    ∃ c', tableColumn props c = .ok (bp s) c' ∧ c'.rest = rest ∧ c'.pastEnd = false
  noTab : ∀ ap s, ok ap s → ∀ ch ∈ str s, ch ≠ '\t'
  lineOK : ∀ ap s, ok ap s → LineOK (str s)
  /-- in the order written -/
  irefs : σ → List IRefT
  bp_refs : ∀ s, (bp s).refs = (irefs s).map IRefT.bp
  /-- whatever enums are declared, as long as the column's type does not name one of them -/
  build : ∀ ap (enums : List Enum) s, ok ap s → resolveTypePure enums (bp s).type = .plain (bp s).type →
    buildColumn enums (bp s) = .ok (col s)
  /-- in any database whose inline references of this column render as the ones the column declares -/
  render : ∀ (db : Db) (ti ci : Nat) (s : σ), ok db.allowProps s →
    (Dbml.inlineRefsOfColumn db ti ci).mapM (Dbml.renderInlineRef db) = .ok ((irefs s).map IRefT.text) →
    Dbml.renderColumn db ti ci (col s) = .ok (str s)

variable {σ : Type}

theorem ColForm.norefs (F : ColForm σ) (s : σ) (h : F.irefs s = []) : (F.bp s).refs = [] := by
  rw [F.bp_refs, h]; rfl

def ColForm.text (F : ColForm σ) : List σ → Str
  | [] => []
  | s :: r => ' ' :: ' ' :: ' ' :: ' ' :: (F.str s ++ '\n' :: F.text r)

def ColForm.tableText (F : ColForm σ) (tn : Str) (cs : List σ) : Str :=
  'T' :: 'a' :: 'b' :: 'l' :: 'e' :: ' ' :: '"' :: (tn ++ '"' :: ' ' :: '{' :: '\n' :: (F.text cs ++ ['}']))

def ColForm.tableBp (F : ColForm σ) (tn : Str) (cs : List σ) : Bp.TableBp :=
  { name := tn, schema := lit "public", columns := cs.map F.bp }

def ColForm.table (F : ColForm σ) (tn : Str) (cs : List σ) : Table := { name := tn, columns := cs.map F.col }

def ColForm.allOK (F : ColForm σ) (ap : Bool) (cs : List σ) : Prop := ∀ s ∈ cs, F.ok ap s

theorem ColForm.body_endOK (F : ColForm σ) (cs : List σ) (e : Str) (he : EndOK e) : EndOK (F.text cs ++ e) := by
  cases cs with
  | nil => exact he
  | cons s r =>
    obtain ⟨q, hq⟩ := F.quoted s
    exact ⟨4, '"', q ++ '\n' :: (F.text r ++ e), by simp [ColForm.text, hq, List.replicate], by decide, by decide, by decide⟩

theorem ColForm.text_shrinks (F : ColForm σ) (e : Str) (s : σ) (cs : List σ) :
    (F.text cs ++ e).length < (F.text (s :: cs) ++ e).length := by
  simp only [ColForm.text, List.length_cons, List.length_append]; omega

theorem ColForm.run_col (F : ColForm σ) (props : Bool) (s : σ) (cs : List σ) (e : Str) (he : EndOK e) (hs : F.ok props s) :
    Run (tableElement props) (TblElem.column (F.bp s)) (At (F.text (s :: cs) ++ e)) (At (F.text cs ++ e)) :=
  .bind (stay_skipNl (F.body_endOK (s :: cs) e he))
    (.bind (.alt_left (.bind (.of_at fun c hc hp => F.parse props c s _ (by rw [hc]; simp [ColForm.text]) hp hs) .pure))
      (.bind (stay_skipNl (F.body_endOK cs e he)) .pure))

/-- after the column lines the repetition over the body reads `els` and stops at the brace -/
def BodyEnd (props : Bool) (e : Str) (els : List TblElem) (tail : Str) : Prop :=
  ∀ (fuel : Nat) (c : Cur), 1 < fuel → c.rest = e → c.pastEnd = false →
    ∃ c', many (tableElement props) fuel c = .ok els c' ∧ c'.rest = '}' :: tail ∧ c'.pastEnd = false

theorem bodyEnd_brace (props : Bool) (tail : Str) : BodyEnd props ('}' :: tail) [] tail := fun fuel c hf =>
  (Run.many_stop (fun c hc => tableElement_fail_brace props c tail hc.1) fuel (by omega)).at c

/-- `k`: the fuel the end of the body needs (`BodyEnd` fixes it at 1) -/
theorem ColForm.many_bodyK (F : ColForm σ) (props : Bool) (cs : List σ) (e tail : Str) (els : List TblElem) (k : Nat)
    (he : EndOK e)
    (hE : ∀ (fuel : Nat) (c : Cur), k < fuel → c.rest = e → c.pastEnd = false →
      ∃ c', many (tableElement props) fuel c = .ok els c' ∧ c'.rest = '}' :: tail ∧ c'.pastEnd = false)
    (hcs : F.allOK props cs) :
    ∀ (fuel : Nat) (c : Cur), cs.length + k < fuel → c.rest = F.text cs ++ e → c.pastEnd = false →
      ∃ c', many (tableElement props) fuel c = .ok ((cs.map F.bp).map TblElem.column ++ els) c'
        ∧ c'.rest = '}' :: tail ∧ c'.pastEnd = false := fun fuel c hf => by
  rw [List.map_map]
  exact (Run.many_list (TblElem.column ∘ F.bp) (fun ys => At (F.text ys ++ e)) (F.ok props)
    (fun x ys hx => F.run_col props x ys e he hx) (fun x ys => AtE.prog (Nat.ne_of_lt (F.text_shrinks e x ys)))
    (fun fuel hf => .of_at (hE fuel · hf)) cs hcs fuel hf).at c

theorem ColForm.many_body (F : ColForm σ) (props : Bool) (cs : List σ) (e tail : Str) (els : List TblElem)
    (he : EndOK e) (hE : BodyEnd props e els tail) (hcs : F.allOK props cs) :
    ∀ (fuel : Nat) (c : Cur), cs.length + 1 < fuel → c.rest = F.text cs ++ e → c.pastEnd = false →
      ∃ c', many (tableElement props) fuel c = .ok ((cs.map F.bp).map TblElem.column ++ els) c'
        ∧ c'.rest = '}' :: tail ∧ c'.pastEnd = false :=
  F.many_bodyK props cs e tail els 1 he hE hcs

theorem ColForm.text_no_tab (F : ColForm σ) (ap : Bool) : ∀ (cs : List σ), F.allOK ap cs → ∀ c ∈ F.text cs, c ≠ '\t'
  | [], _ => by simp [ColForm.text]
  | s :: r, hcs => by
    simp only [ColForm.text, List.forall_mem_cons, List.forall_mem_append, ne_eq, Char.reduceEq, not_false_eq_true, true_and]
    exact ⟨F.noTab ap s (hcs s (by simp)), F.text_no_tab ap r fun q hq => hcs q (by simp [hq])⟩

theorem ColForm.text_flatMap (F : ColForm σ) (cs : List σ) :
    F.text cs = (cs.map F.str).flatMap fun l => [' ', ' ', ' ', ' '] ++ l ++ ['\n'] := by
  induction cs with
  | nil => rfl
  | cons s r ih => simp [ColForm.text, ih]

end C02
end PyDBML
