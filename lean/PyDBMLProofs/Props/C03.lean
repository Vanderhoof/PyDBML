/-
C03 — SQL DDL states exactly the model (structure theorems about the model's script).
-/
import PyDBMLModel
import PyDBMLProofs.Props.C16
import PyDBMLProofs.Lit
namespace PyDBML
namespace C03
open Sql

/-- the script is: one CREATE TYPE per enum in order, then one table block per table position —
    every table exactly once (the positions rendered are a permutation of all positions) —, then
    the non-inline references; nothing else. -/
theorem script_structure (db : Db) (txt : Str) (h : renderDb db = .ok txt) :
    ∃ tables refs,
      (reorderIdx db.tables db.refs).mapM (renderTable db) = .ok tables
      ∧ (reorderIdx db.tables db.refs).Perm (List.range db.tables.length)
      ∧ (db.refs.filter (!·.inline)).mapM (renderRefTop db) = .ok refs
      ∧ txt = joinWith (lit "\n\n") (db.enums.map renderEnum ++ tables ++ refs) := by
  obtain ⟨tables, refs, h1, h2, _, h4⟩ := C16.sql_is_join_of_elements db txt h
  exact ⟨tables, refs, h1, C18.perm db.tables db.refs, h2, h4⟩

/-- the `PRIMARY KEY` component of `Sql.renderColumn` (the expression only, not the rendered line): there iff the
    column is pk and the key is not composite -/
theorem column_pk_component (c : Column) (cpk : Bool) :
    (if c.pk && !cpk then [lit "PRIMARY KEY"] else ([] : List Str)) = [lit "PRIMARY KEY"] ↔ (c.pk = true ∧ cpk = false) := by
  cases c.pk <;> cases cpk <;> simp

/-- the `DEFAULT` component of `Sql.renderColumn` (the `match` only): every default yields one — also 0, false, '' -/
theorem default_component (d : DefaultVal) :
    (match (some d : Option DefaultVal) with
      | some d => [lit "DEFAULT " ++ defaultSql d]
      | none => []) = [lit "DEFAULT " ++ defaultSql d] := rfl

example : defaultSql (.int (lit "0")) = lit "0" ∧ defaultSql (.bool false) = lit "False" ∧ defaultSql (.str []) = []
    ∧ defaultSql (.expr (lit "now()")) = lit "(now())" := by
  repeat rw [lit_eq rfl]
  decide

end C03
end PyDBML
