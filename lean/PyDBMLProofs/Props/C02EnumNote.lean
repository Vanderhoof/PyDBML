/-
C01/C02 — enums whose items may carry a note: `"item" [note: 'text']`.  An item is a pair (name, note text); the empty text
means: no note.
-/
import PyDBMLProofs.Props.C02Doc
import PyDBMLProofs.Props.C02Spelling
namespace PyDBML
namespace C02
open Lex Grammar Build

def itemNoteText (t : Str) : Str :=
  if t.isEmpty then [] else ' ' :: '[' :: 'n' :: 'o' :: 't' :: 'e' :: ':' :: ' ' :: '\'' :: (prepareTextForDbml t ++ ['\'', ']'])

def itemStrN (it : Str × Str) : Str := '"' :: (it.1 ++ '"' :: itemNoteText it.2)

def itemLineN (it : Str × Str) : Str := '\n' :: ' ' :: ' ' :: ' ' :: ' ' :: itemStrN it

def itemsTextN : List (Str × Str) → Str
  | [] => []
  | it :: r => itemLineN it ++ itemsTextN r

def noteItem (it : Str × Str) : Bp.EnumItemBp := { name := it.1, note := if it.2.isEmpty then none else some it.2 }

def ItemOK (it : Str × Str) : Prop := NameOK it.1 ∧ Plain it.2 ∧ hasTriple it.2 = false ∧ norm it.2 = it.2

theorem run_enumItemN (it : Str × Str) (rest : Str) (hit : ItemOK it) :
    Run enumItem (noteItem it) (At (itemLineN it ++ '\n' :: rest)) (At ('\n' :: rest)) := by
  obtain ⟨n, t⟩ := it
  obtain ⟨hn, ht, h3, _⟩ := hit
  rw [show itemLineN (n, t) ++ '\n' :: rest
      = '\n' :: (List.replicate 4 ' ' ++ '"' :: (n ++ '"' :: (itemNoteText t ++ '\n' :: rest))) by simp [itemLineN, itemStrN]]
  refine .bind (run_cBefore_nl (endOK_at 4 '"' _ (by decide))) ?_
  refine .bind (run_nameQ 4 n _ hn) ?_
  cases t with
  | nil =>
    refine .bind (.opt_none (fails_comment 0 '\n' rest (by decide) (by decide))) ?_
    refine .bind (.opt_none (.bind (fails_sym toList_lbrack 0 '\n' rest (by decide) (by decide)))) ?_
    exact .pure_eq rfl
  | cons t0 ts =>
    rw [show itemNoteText (t0 :: ts) ++ '\n' :: rest = List.replicate 1 ' ' ++ '[' :: 'n' :: 'o' :: 't' :: 'e' :: ':' :: ' ' :: '\'' ::
        (prepareTextForDbml (t0 :: ts) ++ '\'' :: ']' :: '\n' :: rest) by simp [itemNoteText]]
    refine .bind (.opt_none (fails_comment 1 '[' _ (by decide) (by decide))) ?_
    refine .bind (.opt_some (.bind (run_sym toList_lbrack (by decide) 1 _) (.bind (stay_skipNl (endOK_at 0 'n' _ (by decide)))
      (.cut (.bind ((run_noteRule_ws (t0 :: ts) _ ht h3 (Or.inl (by simp))).pre (AtWs.of_at 0 (by decide)))
        (.bind (stay_skipNl (endOK_at 0 ']' _ (by decide))) (.bind (run_sym toList_rbrack (by decide) 0 _)
          (.bind (.opt_none (fails_comment 0 '\n' rest (by decide) (by decide))) .pure)))))))) ?_
    exact .pure_eq rfl

theorem itemsTextN_nl (is : List (Str × Str)) (tail : Str) : ∃ r, itemsTextN is ++ '\n' :: '}' :: tail = '\n' :: r := by
  cases is with
  | nil => exact ⟨_, rfl⟩
  | cons it r => exact ⟨_, by simp [itemsTextN, itemLineN]; rfl⟩

theorem run_enumItems (it : Str × Str) (is : List (Str × Str)) (tail : Str) (hit : ItemOK it) :
    Run enumItem (noteItem it) (At (itemsTextN (it :: is) ++ '\n' :: '}' :: tail)) (At (itemsTextN is ++ '\n' :: '}' :: tail)) := by
  obtain ⟨r, hr⟩ := itemsTextN_nl is tail
  rw [show itemsTextN (it :: is) ++ '\n' :: '}' :: tail = itemLineN it ++ '\n' :: r by simp [itemsTextN, hr], hr]
  exact run_enumItemN it r hit

def enumTextN (en : Str) (is : List (Str × Str)) : Str :=
  'E' :: 'n' :: 'u' :: 'm' :: ' ' :: '"' :: (en ++ '"' :: ' ' :: '{' :: (itemsTextN is ++ ['\n', '}']))

def enumBpN (en : Str) (is : List (Str × Str)) : Bp.EnumBp := { name := en, items := is.map noteItem }

def KwFactsE (kw : Str) : Bool :=
  kw.length == 4 && startsWithCaseless kw (lit "enum") && kw.all (fun c => c != '\t')
    && (match kw with
        | k :: _ => !isWs k && k != '\n' && k != '/' && decide (k.toNat < 128)
            && !(pyUpper1 't' == pyUpper1 k) && !(pyUpper1 'r' == pyUpper1 k)
        | [] => false)

theorem kwFactsE_eq (kw : Str) : KwFactsE kw = KwFactsG (lit "enum") ['t', 'r'] kw := by
  cases kw <;> simp [KwFactsE, KwFactsG, show (lit "enum").length = 4 from rfl, Bool.and_assoc]

def enumTextK (kw nm : Str) (is : List (Str × Str)) : Str :=
  kw ++ ' ' :: (nm ++ ' ' :: '{' :: (itemsTextN is ++ ['\n', '}']))

theorem enumTextK_Enum (en : Str) (is : List (Str × Str)) : enumTextK (lit "Enum") ('"' :: (en ++ ['"'])) is = enumTextN en is := by
  simp [enumTextK, enumTextN, lit]

theorem fails_enumItem_close (tail : Str) : Fails enumItem (At ('\n' :: '}' :: tail)) :=
  .bind_after (run_cBefore_nl (endOK_brace tail)) (.bind (fails_name 0 '}' tail (by decide) (by decide) (by decide)))

theorem run_enumRule {A Q : Cur → Prop} {others : List Char} (kw nm en : Str) (is : List (Str × Str)) (post : Str)
    (hkw : KwFactsG (lit "enum") others kw = true) (hnm : SpellsE nm en) (his : ∀ it ∈ is, ItemOK it) (hne : is ≠ [])
    (hb : Run cBefore [] A (At (enumTextK kw nm is ++ post))) (hend : Run endRule () (At post) Q) :
    Run enumRule (enumBpN en is) A Q := by
  obtain ⟨i0, ir, rfl⟩ := List.exists_cons_of_ne_nil hne
  refine .bind (hb.post (B' := At (kw ++ ' ' :: (nm ++ ' ' :: '{' :: (itemsTextN (i0 :: ir) ++ '\n' :: '}' :: post))))
    fun c hc => ⟨by rw [hc.1]; simp [enumTextK], hc.2⟩) ?_
  refine .bind (run_kwG hkw _) (.cut ?_)
  refine .bind (run_speltE hnm 1 _) ?_
  refine .bind (stay_skipNl (endOK_at 1 '{' _ (by decide))) ?_
  refine .bind (run_lbrace 1 _) ?_
  refine .bind (.many1 (run_enumItems i0 ir post (his i0 (by simp)))
    (.manyF_list_stop noteItem (fun ys => itemsTextN ys ++ '\n' :: '}' :: post) (fun _ => false) ItemOK
      (fun x ys hx => run_enumItems x ys post hx) (fun x ys => by simp [itemsTextN, itemLineN]; omega)
      (fails_enumItem_close post) ir (fun q hq => his q (by simp [hq])))) ?_
  refine .bind (run_lineEnd_nl 0 _) ?_
  refine .bind (stay_skipNl (endOK_at 0 '}' _ (by decide))) ?_
  refine .bind (run_rbrace 0 _) ?_
  exact .bind hend (.pure_eq rfl)

theorem kwFactsG_Enum : KwFactsG (lit "enum") ['t', 'r'] ['E', 'n', 'u', 'm'] = true := by decide +kernel

theorem enumRule_okPN (c c0 : Cur) (en : Str) (is : List (Str × Str)) (post : Str) (Q : Cur → Prop)
    (hb : cBefore c = .ok [] c0) (hc : c0.rest = enumTextN en is ++ post) (hp : c0.pastEnd = false)
    (hen : NameOK en) (his : ∀ it ∈ is, ItemOK it) (hne : is ≠ [])
    (hend : ∀ c7 : Cur, c7.rest = post → c7.pastEnd = false → ∃ c9, endRule c7 = .ok () c9 ∧ Q c9) :
    ∃ c9, enumRule c = .ok (enumBpN en is) c9 ∧ Q c9 :=
  run_enumRule ['E', 'n', 'u', 'm'] ('"' :: (en ++ ['"'])) en is post kwFactsG_Enum (spellsE_quoted en hen) his hne
    (.of_eq hb ⟨by rw [hc]; simp [enumTextK, enumTextN], hp⟩) (.of_at hend) c rfl

abbrev ESpecN := Str × List (Str × Str)

def ESpecNOK (e : ESpecN) : Prop := NameOK e.1 ∧ (∀ it ∈ e.2, ItemOK it) ∧ e.2 ≠ []

def mkEnumElemN (e : ESpecN) : Bp.Elem := Bp.Elem.enum (enumBpN e.1 e.2)

theorem itemStrN_plain (it : Str × Str) (h : ItemOK it) : Plain (itemStrN it) := by
  refine .cons (by decide) (h.1.plain.append (.cons (by decide) ?_))
  unfold itemNoteText
  split
  · exact .nil
  · exact Plain.append (a := [' ', '[', 'n', 'o', 't', 'e', ':', ' ', '\'']) (by decide) (h.2.1.prepare.append (by decide))

theorem itemsTextN_no_tab : ∀ (is : List (Str × Str)), (∀ it ∈ is, ItemOK it) → ∀ c ∈ itemsTextN is, c ≠ '\t'
  | [], _ => by simp [itemsTextN]
  | it :: r, h => by
    simp only [itemsTextN, itemLineN, List.forall_mem_cons, List.forall_mem_append, ne_eq, Char.reduceEq, not_false_eq_true, true_and]
    exact ⟨fun c hc => (itemStrN_plain it (h it (by simp)) c hc).2, itemsTextN_no_tab r fun q hq => h q (by simp [hq])⟩

theorem enumTextN_no_tab (e : ESpecN) (he : ESpecNOK e) : ∀ c ∈ 'E' :: (enumTextN e.1 e.2).tail, c ≠ '\t' := by
  simp only [enumTextN, List.tail_cons, List.forall_mem_cons, List.forall_mem_append, List.mem_nil_iff, false_imp_iff, implies_true, ne_eq,
    Char.reduceEq, not_false_eq_true, true_and, and_true]
  exact ⟨fun c h => (he.1 c h).2.2.2, itemsTextN_no_tab e.2 he.2.1⟩

theorem enumEN_parse (ap : Bool) (e : ESpecN) (kw nm : Str) (hkw : KwFactsG (lit "enum") ['t', 'r'] kw = true)
    (hnm : SpellsE nm e.1) (his : ∀ it ∈ e.2, ItemOK it) (hne : e.2 ≠ []) (d : Char) (c c0 : Cur) (post : Str)
    (hb : cBefore c = .ok (cmList none) c0)
    (hr0 : c0.rest = kw.headD d :: (kw.tail ++ ' ' :: (nm ++ ' ' :: '{' :: (itemsTextN e.2 ++ ['\n', '}'])) ++ post))
    (hp0 : c0.pastEnd = false) (hends : EndsOK post) :
    ∃ c9, element ap c = .ok (mkEnumElemN e) c9 ∧ After post c9 := by
  obtain ⟨_, _, _, k, ks, rfl, _⟩ := kwFactsG_elim _ _ _ hkw
  have hb' : Run cBefore [] (· = c) (At (enumTextK (k :: ks) nm e.2 ++ post)) :=
    .of_eq hb ⟨by rw [hr0]; simp [enumTextK], hp0⟩
  have f := kwG_rules_fail (ap := ap) hkw d hb' (fun _ h => h)
  exact run_element_enum (f.1 (by decide)) (f.2.1 (by decide))
    (run_enumRule _ nm e.1 e.2 post hkw hnm his hne hb' (run_endRule_after hends)) c rfl

def enumEN (ap : Bool) (e : ESpecN) (he : ESpecNOK e) : EForm ap where
  pre := none
  head := 'E'
  body := (enumTextN e.1 e.2).tail
  elem := mkEnumElemN e
  headOK := by decide
  headAscii := by decide
  preOK := trivial
  noTab := enumTextN_no_tab e he
  parse := by
    intro c c0 post hb hr0 hp0 _ hends
    obtain ⟨c9, h⟩ := enumEN_parse ap e ['E', 'n', 'u', 'm'] ('"' :: (e.1 ++ ['"'])) kwFactsG_Enum (spellsE_quoted e.1 he.1)
      he.2.1 he.2.2 'E' c c0 post hb (by rw [hr0]; simp [enumTextN]) hp0 hends
    exact ⟨c9, h⟩

theorem enumEN_text (ap : Bool) (e : ESpecN) (he : ESpecNOK e) : (enumEN ap e he).text = enumTextN e.1 e.2 := by
  simp [EForm.text, enumEN, commentText, enumTextN]

def mkEnumN (e : ESpecN) : Enum :=
  { name := e.1, schema := lit "public", items := e.2.map fun it => { name := it.1, note := it.2 } }

theorem buildEnum_N (e : ESpecN) (he : ESpecNOK e) : buildEnum (enumBpN e.1 e.2) = .ok (mkEnumN e) := by
  have : (e.2.map noteItem).map buildEnumItem = e.2.map fun it => ({ name := it.1, note := it.2 } : EnumItem) := by
    rw [List.map_map]
    apply List.map_congr_left
    intro it hit
    obtain ⟨_, _, _, hn⟩ := he.2.1 it hit
    cases ht : it.2 with
    | nil => simp [noteItem, buildEnumItem, noteText, ht]
    | cons a b =>
      rw [ht] at hn
      simp [noteItem, buildEnumItem, noteText, ht, hn]
  simp [buildEnum, enumBpN, mkEnumN, this, pure, Except.pure]

theorem itemsTextN_flatMap (is : List (Str × Str)) :
    '\n' :: ((is.map itemStrN).flatMap fun l => [' ', ' ', ' ', ' '] ++ l ++ ['\n']) = itemsTextN is ++ ['\n'] := by
  induction is with
  | nil => rfl
  | cons it r ih =>
    simp only [List.map_cons, List.flatMap_cons, itemsTextN, itemLineN] at ih ⊢
    simp only [List.cons_append, List.append_assoc, List.nil_append, List.cons.injEq, true_and]
    rw [← ih]
    simp

theorem renderEnum_N (e : ESpecN) (he : ESpecNOK e) : Dbml.renderEnum (mkEnumN e) = enumTextN e.1 e.2 := by
  obtain ⟨en, is⟩ := e
  obtain ⟨_, his, hne⟩ := he
  have hitems : (mkEnumN (en, is)).items.map Dbml.renderEnumItem = is.map itemStrN := by
    simp only [mkEnumN, List.map_map]
    apply List.map_congr_left
    intro it hit
    obtain ⟨_, ht, _, _⟩ := his it hit
    have hnl := containsChar_plain it.2 ht
    cases h2 : it.2 with
    | nil => simp [Dbml.renderEnumItem, Dbml.optComment, itemStrN, itemNoteText, h2]
    | cons a b =>
      rw [h2] at hnl
      simp only [Function.comp, Dbml.renderEnumItem, Dbml.optComment, itemStrN, itemNoteText, h2, noteOptionToDbml, hnl,
        List.isEmpty_cons, Bool.false_eq_true, ↓reduceIte, List.nil_append]
      simp [lit]
  have hbody := indent4_lines (is.map itemStrN) (by simpa using hne)
    (List.forall_mem_map.mpr fun it hit c hc => (itemStrN_plain it (his it hit) c hc).1)
    (List.forall_mem_map.mpr fun it _ => ⟨'"', _, rfl, by decide⟩)
  unfold Dbml.renderEnum
  rw [hitems]
  have h2 := itemsTextN_flatMap is
  rw [← hbody] at h2
  have e1 : enumTextN en is = lit "Enum " ++ ('"' :: en ++ ['"']) ++ lit " {" ++ ((itemsTextN is ++ ['\n']) ++ ['}']) := by
    simp [enumTextN, lit]
  simp only
  rw [e1, ← h2]
  simp [mkEnumN, Dbml.optComment, qualName, lit]

end C02
end PyDBML
