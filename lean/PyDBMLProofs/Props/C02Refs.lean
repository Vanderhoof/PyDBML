/-
C02/C01/C05 — standalone references in block form: the reference rule, references as element forms, and positional
references (`RSpec`).
-/
import PyDBMLProofs.Props.C02Doc
import PyDBMLProofs.Props.C02Spelling
namespace PyDBML
namespace C02
open Lex Grammar Build

/-- a reference written by names -/
structure RText where
  kind : RefKind
  t1 : Str
  c1 : Str
  t2 : Str
  c2 : Str

def sideText (t c : Str) (post : Str) : Str := '"' :: (t ++ '"' :: '.' :: '"' :: (c ++ '"' :: post))

/-- `Ref {` LF `    "t1"."c1" > "t2"."c2"` LF `}`, then `post` -/
def refTextP (r : RText) (post : Str) : Str :=
  'R' :: 'e' :: 'f' :: ' ' :: '{' :: '\n' :: ' ' :: ' ' :: ' ' :: ' ' ::
    sideText r.t1 r.c1 (' ' :: (r.kind.sym ++ ' ' :: sideText r.t2 r.c2 ('\n' :: '}' :: post)))

def refBp (r : RText) : Bp.RefBp :=
  { kind := r.kind, inline := false, table1 := some r.t1, col1 := some r.c1, table2 := some r.t2, col2 := some r.c2 }

def RTextOK (r : RText) : Prop := NameOK r.t1 ∧ NameOK r.c1 ∧ NameOK r.t2 ∧ NameOK r.c2

theorem kind_sym_head (k : RefKind) : ∃ y r, k.sym = y :: r ∧ y ≠ '.' ∧ isWs y = false := by
  cases k <;> exact ⟨_, _, rfl, by decide, by decide⟩

def refAfterKw (r : RText) (post : Str) : Str :=
  ' ' :: '{' :: '\n' :: ' ' :: ' ' :: ' ' :: ' ' ::
    sideText r.t1 r.c1 (' ' :: (r.kind.sym ++ ' ' :: sideText r.t2 r.c2 ('\n' :: '}' :: post)))

theorem run_relation (n : Nat) (k : RefKind) (post : Str) :
    Run relation k (At (List.replicate n ' ' ++ (k.sym ++ ' ' :: post))) (At (' ' :: post)) := fun c hc => by
  obtain ⟨y, yr, hy, _, hyw⟩ := kind_sym_head k
  have hn : (skipWs c).rest = k.sym ++ ' ' :: post := by
    rw [skipWs_rest_spaces c n y (yr ++ ' ' :: post) (by rw [hc.1, hy]; rfl) hyw, hy]; rfl
  refine ⟨advance (skipWs c) k.sym.length, ?_, by rw [C13.advance_rest, hn]; simp, by rw [C13.advance_pastEnd]; exact hc.2⟩
  unfold relation
  cases k <;> simp [hc.2, hn, RefKind.sym]

theorem fails_dot_relation (k : RefKind) (post : Str) : Fails (sym ".") (At (' ' :: (k.sym ++ post))) := fun c hc => by
  obtain ⟨y, yr, hy, hyd, hyw⟩ := kind_sym_head k
  exact fails_sym toList_dot 1 y (yr ++ post) hyw hyd c ⟨by rw [hc.1, hy]; rfl, hc.2⟩

theorem run_refCols (n : Nat) (t col after : Str) (ht : NameOK t) (hc : NameOK col) (hdot : Fails (sym ".") (At after)) :
    Run refCols (none, t, col) (At (List.replicate n ' ' ++ sideText t col after)) (At after) :=
  .alt_right
    (.bind_after (run_nameQ n t _ ht) (.bind_after (run_sym toList_dot (by decide) 0 _)
      (.bind_after (run_nameQ 0 col _ hc) (.bind hdot))))
    (.bind (run_nameQ n t _ ht) (.bind (run_sym toList_dot (by decide) 0 _) (.bind (.alt_left (run_nameQ 0 col _ hc)) .pure)))

theorem run_refBody (n : Nat) (r : RText) (post : Str) (hok : RTextOK r) :
    Run (refBody none []) (refBp r)
      (At (List.replicate n ' ' ++ sideText r.t1 r.c1 (' ' :: (r.kind.sym ++ ' ' :: sideText r.t2 r.c2 ('\n' :: post)))))
      (At ('\n' :: post)) := by
  refine .bind (run_refCols n r.t1 r.c1 _ hok.1 hok.2.1 (fails_dot_relation r.kind _)) (.cut ?_)
  refine .bind (run_relation 1 r.kind _) ?_
  refine .bind (run_refCols 1 r.t2 r.c2 _ hok.2.2.1 hok.2.2.2 (fails_sym toList_dot 0 '\n' post (by decide) (by decide))) ?_
  refine .bind (.opt_none (fails_comment 0 '\n' post (by decide) (by decide))) ?_
  refine .bind (.opt_none (.bind (fails_sym toList_lbrack 0 '\n' post (by decide) (by decide)))) ?_
  exact .pure_eq rfl

/-- the short form (`Ref: …`) fails at the missing colon, the long form reads the block -/
theorem run_refRule {A Q : Cur → Prop} {others : List Char} (kw : Str) (r : RText) (post : Str)
    (hkw : KwFactsG (lit "ref") others kw = true) (hok : RTextOK r)
    (hb : Run cBefore [] A (At (kw ++ refAfterKw r post))) (hend : Run (alt lineEnd stringEnd) () (At post) Q) :
    Run refRule (refBp r) A Q := by
  have hb' : Run cBefore [] A (At (kw ++ ' ' :: '{' :: '\n' :: (List.replicate 4 ' ' ++
      sideText r.t1 r.c1 (' ' :: (r.kind.sym ++ ' ' :: sideText r.t2 r.c2 ('\n' :: '}' :: post)))))) := hb
  refine .alt_right ?_ ?_
  · exact .bind_after hb' (.bind_after (run_kwG hkw _)
      (.bind_after (.opt_none (fails_name 1 '{' _ (by decide) (by decide) (by decide)))
        (.bind (fails_sym toList_colon 1 '{' _ (by decide) (by decide)))))
  · refine .bind hb' ?_
    refine .bind (run_kwG hkw _) ?_
    refine .bind (stay_skipNl (endOK_at 1 '{' _ (by decide))) ?_
    refine .bind (.opt_none (fails_name 1 '{' _ (by decide) (by decide) (by decide))) ?_
    refine .bind (stay_skipNl (endOK_at 1 '{' _ (by decide))) ?_
    refine .bind (run_lbrace 1 _) ?_
    refine .bind (run_skipNl_nl 0 (endOK_at 4 '"' _ (by decide))) ?_
    refine .bind (.cut (.bind (run_refBody 4 r ('}' :: post) hok)
      (.bind (run_skipNl_nl 0 (endOK_at 0 '}' _ (by decide))) (.bind (run_rbrace 0 _) .pure)))) ?_
    exact .bind hend .pure

theorem kwFactsG_Ref : KwFactsG (lit "ref") ['t'] ['R', 'e', 'f'] = true := by decide +kernel

theorem refRule_okP (c c0 : Cur) (r : RText) (post : Str) (Q : Cur → Prop)
    (hb : cBefore c = .ok [] c0) (hc : c0.rest = refTextP r post) (hp : c0.pastEnd = false) (hok : RTextOK r)
    (hend : ∀ c7 : Cur, c7.rest = post → c7.pastEnd = false → ∃ c9, (alt lineEnd stringEnd) c7 = .ok () c9 ∧ Q c9) :
    ∃ c9, refRule c = .ok (refBp r) c9 ∧ Q c9 :=
  run_refRule ['R', 'e', 'f'] r post kwFactsG_Ref hok (.of_eq hb ⟨hc, hp⟩) (.of_at hend) c rfl

def refsTail : List RText → Str
  | [] => []
  | r :: rs => '\n' :: '\n' :: refTextP r (refsTail rs)

def refsAfter : List RText → Str
  | [] => []
  | r :: rs => '\n' :: refTextP r (refsTail rs)

def mkRefElem (r : RText) : Bp.Elem := Bp.Elem.ref (refBp r)

theorem kind_sym_no_tab (k : RefKind) : ∀ x ∈ k.sym, x ≠ '\t' := by
  cases k <;> decide

theorem refAfterKw_no_tab (r : RText) (post : Str) (hok : RTextOK r) (hpost : ∀ x ∈ post, x ≠ '\t') :
    ∀ x ∈ refAfterKw r post, x ≠ '\t' := by
  simp only [refAfterKw, sideText, List.forall_mem_cons, List.forall_mem_append, ne_eq, Char.reduceEq, not_false_eq_true, true_and]
  exact ⟨fun x h => (hok.1 x h).2.2.2, fun x h => (hok.2.1 x h).2.2.2, kind_sym_no_tab _, fun x h => (hok.2.2.1 x h).2.2.2,
    fun x h => (hok.2.2.2 x h).2.2.2, hpost⟩

def refText (r : RText) : Str := refTextP r []

theorem refTextP_append (r : RText) (post : Str) : refTextP r post = refText r ++ post := by
  simp [refTextP, refText, sideText]

theorem refE_parse (ap : Bool) (r : RText) (hok : RTextOK r) (kw : Str) (hkw : KwFactsG (lit "ref") ['t'] kw = true) (d : Char)
    (c c0 : Cur) (post : Str) (hb : cBefore c = .ok (cmList none) c0)
    (hr0 : c0.rest = kw.headD d :: (kw.tail ++ refAfterKw r [] ++ post)) (hp0 : c0.pastEnd = false) (hends : EndsOK post) :
    ∃ c9, element ap c = .ok (mkRefElem r) c9 ∧ After post c9 := by
  obtain ⟨_, _, _, k, ks, rfl, _⟩ := kwFactsG_elim _ _ _ hkw
  have hb' : Run cBefore [] (· = c) (At ((k :: ks) ++ refAfterKw r post)) :=
    .of_eq hb ⟨by rw [hr0]; simp [refAfterKw, sideText], hp0⟩
  exact run_element_ref ((kwG_rules_fail hkw d hb' (fun _ h => h)).1 (by decide))
    (run_refRule _ r post hkw hok hb' (run_refEnd_after hends)) c rfl

def refE (ap : Bool) (r : RText) (hok : RTextOK r) : EForm ap where
  pre := none
  head := 'R'
  body := (refText r).tail
  elem := mkRefElem r
  headOK := by decide
  headAscii := by decide
  preOK := trivial
  noTab := by
    have := refAfterKw_no_tab r [] hok (by simp)
    simp only [refText, refTextP, refAfterKw, List.tail_cons, List.forall_mem_cons, ne_eq, Char.reduceEq, not_false_eq_true,
      true_and] at this ⊢
    exact this
  parse := by
    intro c c0 post hb hr0 hp0 _ hends
    obtain ⟨c9, h⟩ := refE_parse ap r hok ['R', 'e', 'f'] kwFactsG_Ref 'R' c c0 post hb hr0 hp0 hends
    exact ⟨c9, h⟩

theorem refE_text (ap : Bool) (r : RText) (hok : RTextOK r) : (refE ap r hok).text = refText r := by
  simp [EForm.text, refE, commentText, refText, refTextP]

def refEs (ap : Bool) (rs : List RText) (h : ∀ r ∈ rs, RTextOK r) : List (EForm ap) := rs.pmap (fun r hr => refE ap r hr) h

theorem refEs_elems (ap : Bool) (rs : List RText) (h : ∀ r ∈ rs, RTextOK r) :
    (refEs ap rs h).map (·.elem) = rs.map mkRefElem :=
  map_pmap_const (fun r hr => refE ap r hr) (·.elem) mkRefElem (fun _ _ => rfl) rs h

theorem refsTail_eqE (ap : Bool) : ∀ (rs : List RText) (h : ∀ r ∈ rs, RTextOK r), refsTail rs = docTailE (refEs ap rs h)
  | [], _ => rfl
  | r :: t, h => by
    simp only [refsTail, refEs, List.pmap, docTailE, refE_text, refTextP_append]
    rw [refsTail_eqE ap t (fun q hq => h q (by simp [hq]))]
    simp [refEs]

theorem refsAfter_eqE (ap : Bool) (rs : List RText) (h : ∀ r ∈ rs, RTextOK r) : refsAfter rs = afterE (refEs ap rs h) := by
  cases rs with
  | nil => rfl
  | cons r t => exact (List.cons.inj (refsTail_eqE ap (r :: t) h)).2

theorem many_refs (ap : Bool) : ∀ (rs : List RText) (fuel : Nat) (c : Cur), rs.length < fuel →
    (∀ r ∈ rs, RTextOK r) → c.rest = refsAfter rs → c.pastEnd = rs.isEmpty →
    ∃ c', many (element ap) fuel c = .ok (rs.map mkRefElem) c' ∧ c'.rest = [] ∧ c'.pastEnd = true := by
  intro rs fuel c hf hok hc hp
  rw [← refEs_elems ap rs hok]
  exact many_elems _ fuel c (by simpa [refEs] using hf) (by rw [hc, refsAfter_eqE ap rs hok]) (by rw [hp]; cases rs <;> rfl)

/-- a reference between columns given by POSITION -/
structure RSpec where
  kind : RefKind
  t1 : Nat
  c1 : Nat
  t2 : Nat
  c2 : Nat
  deriving DecidableEq

def mkRef (r : RSpec) : Ref := { kind := r.kind, t1 := r.t1, col1 := [r.c1], t2 := r.t2, col2 := [r.c2] }

theorem joinWith_refs : ∀ (rs : List RText), rs ≠ [] →
    lit "\n\n" ++ joinWith (lit "\n\n") (rs.map refText) = refsTail rs
  | [], h => absurd rfl h
  | r :: t, _ => by
    rw [joinWith_map_cons (lit "\n\n") refText refsTail rfl (fun x xs => by simp [refsTail, refTextP_append, lit])]
    simp [refsTail, refTextP_append, lit]

end C02
end PyDBML
