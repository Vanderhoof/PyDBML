/-
C06 — rule-breaking documents are rejected.  About `Build.buildDatabase` (the model of
`PyDBMLParser.build_database` + `Database.add_*` + `Blueprint.build`): what it returns abides by every uniqueness
rule and drops nothing; the error of a rule is its own.  (The errors of two groups with one name and of two equal
references are looked at in `C08.buildDatabase_error` only.)
-/
import PyDBMLProofs.Except
namespace PyDBML
namespace C06
open Build Lex Exc

/-- two tables of one database never share a key of the name/alias dictionary -/
def DisjointKeys (u t : Table) : Prop :=
  u.fullName ≠ t.fullName ∧ u.alias ≠ some t.fullName ∧
  (∀ a, t.alias = some a → u.fullName ≠ a ∧ u.alias ≠ some a)

theorem hasKey_false (ts : List Table) (key : Str) (h : hasKey ts key = false) :
    ∀ u ∈ ts, u.fullName ≠ key ∧ u.alias ≠ some key := by
  intro u hu
  simp only [hasKey, List.any_eq_false] at h
  simpa using h u hu

theorem addTable_cases (ts : List Table) (t : Table) :
    addTable ts t = .error (.lib "DatabaseValidationError")
    ∨ (addTable ts t = .ok (ts ++ [t]) ∧ ∀ u ∈ ts, DisjointKeys u t) := by
  unfold addTable
  split
  · exact .inl rfl
  · split
    · exact .inl rfl
    · rename_i _ c2
      have k1 := hasKey_false ts t.fullName (by simpa using c2)
      by_cases c3 : (match t.alias with | some a => hasKey ts a | none => false) = true
      · exact .inl (if_pos c3)
      · refine .inr ⟨if_neg c3, fun u hu => ⟨(k1 u hu).1, (k1 u hu).2, fun a ha => ?_⟩⟩
        rw [ha] at c3
        exact hasKey_false ts a (by simpa using c3) u hu

theorem addTable_ok (ts : List Table) (t : Table) (ts' : List Table) (h : addTable ts t = .ok ts') :
    ts' = ts ++ [t] ∧ ∀ u ∈ ts, DisjointKeys u t := by
  rcases addTable_cases ts t with he | ⟨ho, hd⟩
  · rw [he] at h; cases h
  · rw [ho] at h; cases h; exact ⟨rfl, hd⟩

theorem addTable_error (ts : List Table) (t : Table) (e : PErr) (h : addTable ts t = .error e) :
    e = .lib "DatabaseValidationError" := by
  rcases addTable_cases ts t with he | ⟨ho, _⟩
  · rw [he] at h; cases h; rfl
  · rw [ho] at h; cases h

/-- two declarations with one schema and name, a reused alias, an alias equal to an existing key: refused -/
theorem addTable_clash (ts : List Table) (t u : Table) (hu : u ∈ ts)
    (hc : u.fullName = t.fullName ∨ u.alias = some t.fullName
        ∨ (∃ a, t.alias = some a ∧ (u.fullName = a ∨ u.alias = some a))) :
    addTable ts t = .error (.lib "DatabaseValidationError") := by
  rcases addTable_cases ts t with he | ⟨_, hd⟩
  · exact he
  · obtain ⟨d1, d2, d3⟩ := hd u hu
    rcases hc with hc | hc | ⟨a, ha, hc | hc⟩
    · exact absurd hc d1
    · exact absurd hc d2
    · exact absurd hc (d3 a ha).1
    · exact absurd hc (d3 a ha).2

theorem buildTable_inv {enums : List Enum} {tb : Bp.TableBp} {t : Table} (h : buildTable enums tb = .ok t) :
    ∃ note cols idx, tb.columns.mapM (buildColumn enums) = .ok cols
      ∧ (tb.indexes.getD []).mapM (buildIndex cols) = .ok idx
      ∧ t = { name := tb.name, schema := tb.schema, alias := match tb.alias with | some [] => none | x => x,
              columns := cols, indexes := idx, note := note, headerColor := tb.headerColor,
              comment := tb.comment, props := tb.props.getD [] } := by
  unfold buildTable at h
  obtain ⟨note, _, h⟩ := bind_ok h
  obtain ⟨cols, hcols, h⟩ := bind_ok h
  obtain ⟨idx, hidx, h⟩ := bind_ok h
  cases h
  exact ⟨note, cols, idx, hcols, hidx, rfl⟩

def EnumsDiffer (a b : Enum) : Prop := ¬ (a.name = b.name ∧ a.schema = b.schema)

theorem addEnum_ok (es : List Enum) (e : Enum) (es' : List Enum) (h : addEnum es e = .ok es') :
    es' = es ++ [e] ∧ ∀ x ∈ es, EnumsDiffer x e := by
  unfold addEnum at h
  split at h
  · cases h
  · rename_i h1
    cases h
    have h1' : ∀ x ∈ es, x.name = e.name → ¬ x.schema = e.schema := by simpa using h1
    exact ⟨rfl, fun x hx hd => h1' x hx hd.1 hd.2⟩

theorem addEnum_error (es : List Enum) (e : Enum) (er : PErr) (h : addEnum es e = .error er) :
    er = .lib "DatabaseValidationError" := by
  unfold addEnum at h
  split at h <;> cases h
  rfl

theorem enumStep_error (acc : List Enum) (eb : Bp.EnumBp) (e : PErr) (h : enumStep acc eb = .error e) :
    e = .lib "DatabaseValidationError" :=
  -- `buildEnum` is `pure`: the step unfolds to `addEnum`
  addEnum_error _ _ _ h

theorem findKey_sound (ts : List Table) (key : Str) (i : Nat) (h : findKey ts key = some i) :
    ∃ t, ts[i]? = some t ∧ (t.fullName = key ∨ t.alias = some key) := by
  unfold findKey at h
  have := List.find?_some h
  cases ht : ts[i]? with
  | none => simp [ht] at this
  | some t =>
    refine ⟨t, rfl, ?_⟩
    simpa [ht] using this

theorem locateTable_cases (ts : List Table) (schema name : Str) :
    (∃ i, locateTable ts schema name = .ok i
        ∧ (findKey ts name = some i ∨ findKey ts name = none ∧ findKey ts (fullName schema name) = some i))
    ∨ (locateTable ts schema name = .error (.lib "TableNotFoundError")
        ∧ findKey ts name = none ∧ findKey ts (fullName schema name) = none) := by
  unfold locateTable
  cases h1 : findKey ts name with
  | some i => exact .inl ⟨i, rfl, .inl rfl⟩
  | none =>
    cases h2 : findKey ts (fullName schema name) with
    | some i => exact .inl ⟨i, rfl, .inr ⟨rfl, rfl⟩⟩
    | none => exact .inr ⟨rfl, rfl, rfl⟩

/-- `locate_table` binds a name only to a table that carries it, as alias or bare key or as `schema.name` -/
theorem locateTable_sound (ts : List Table) (schema name : Str) (i : Nat)
    (h : locateTable ts schema name = .ok i) :
    ∃ t, ts[i]? = some t ∧
      (t.fullName = name ∨ t.alias = some name ∨ t.fullName = fullName schema name
        ∨ t.alias = some (fullName schema name)) := by
  rcases locateTable_cases ts schema name with ⟨j, hj, hk⟩ | ⟨he, _⟩
  · rw [hj] at h; cases h
    rcases hk with hk | ⟨_, hk⟩ <;> obtain ⟨t, ht, hk⟩ := findKey_sound _ _ _ hk
    · exact ⟨t, ht, hk.elim .inl (.inr ∘ .inl)⟩
    · exact ⟨t, ht, hk.elim (.inr ∘ .inr ∘ .inl) (.inr ∘ .inr ∘ .inr)⟩
  · rw [he] at h; cases h

theorem locateTable_error (ts : List Table) (schema name : Str) (e : PErr)
    (h : locateTable ts schema name = .error e) : e = .lib "TableNotFoundError" := by
  rcases locateTable_cases ts schema name with ⟨i, hi, _⟩ | ⟨he, _⟩
  · rw [hi] at h; cases h
  · rw [he] at h; cases h; rfl

/-- when a table exists under `schema.name` the lookup succeeds (nothing declared is "not found") -/
theorem locateTable_complete (ts : List Table) (schema name : Str) (t : Table) (ht : t ∈ ts)
    (hk : t.fullName = fullName schema name) : ∃ i, locateTable ts schema name = .ok i := by
  rcases locateTable_cases ts schema name with ⟨i, hi, _⟩ | ⟨_, _, h2⟩
  · exact ⟨i, hi⟩
  · exfalso
    unfold findKey at h2
    rw [List.find?_eq_none] at h2
    obtain ⟨i, hi, hti⟩ := List.mem_iff_getElem.mp ht
    have := h2 i (by simp [hi])
    simp [List.getElem?_eq_getElem hi, hti, hk] at this

theorem groupStep_located (ts : List Table) (acc : List Nat) (tn : Str) (i : Nat)
    (hl : locateTable ts (groupItemName tn).1 (groupItemName tn).2 = .ok i) :
    groupStep ts acc tn = if i ∈ acc then .error (.lib "ValidationError") else .ok (acc ++ [i]) := by
  unfold groupStep
  rw [hl]
  by_cases hi : i ∈ acc <;> simp [hi, bind, Except.bind, throw, throwThe, MonadExceptOf.throw, pure, Except.pure]

/-- listing one table twice is refused however the second mention addresses it -/
theorem groupStep_twice (ts : List Table) (acc : List Nat) (tn : Str) (i : Nat)
    (hl : locateTable ts (groupItemName tn).1 (groupItemName tn).2 = .ok i) (hi : i ∈ acc) :
    groupStep ts acc tn = .error (.lib "ValidationError") := by
  rw [groupStep_located ts acc tn i hl, if_pos hi]

theorem groupStep_ok (ts : List Table) (acc : List Nat) (tn : Str) (acc' : List Nat)
    (h : groupStep ts acc tn = .ok acc') :
    ∃ i, acc' = acc ++ [i] ∧ i ∉ acc ∧ i < ts.length := by
  cases hl : locateTable ts (groupItemName tn).1 (groupItemName tn).2 with
  | error e => unfold groupStep at h; rw [hl] at h; cases h
  | ok i =>
    obtain ⟨t, ht, _⟩ := locateTable_sound _ _ _ _ hl
    rw [groupStep_located ts acc tn i hl] at h
    split at h <;> cases h
    exact ⟨i, rfl, ‹_›, (List.getElem?_eq_some_iff.mp ht).1⟩

theorem groupStep_error (ts : List Table) (acc : List Nat) (tn : Str) (e : PErr)
    (h : groupStep ts acc tn = .error e) :
    e = .lib "ValidationError" ∨ e = .lib "TableNotFoundError" := by
  cases hl : locateTable ts (groupItemName tn).1 (groupItemName tn).2 with
  | error e1 =>
    unfold groupStep at h
    rw [hl] at h
    cases h
    exact .inr (locateTable_error _ _ _ _ hl)
  | ok i =>
    rw [groupStep_located ts acc tn i hl] at h
    split at h <;> cases h
    exact .inl rfl

/-- a built group lists every table at most once, however each mention addresses it, and links only existing tables -/
theorem buildGroup_ok (db : Db) (g : Bp.GroupBp) (gr : Group) (h : buildGroup db g = .ok gr) :
    gr.items.Nodup ∧ gr.name = g.name ∧ ∀ i ∈ gr.items, i < db.tables.length := by
  unfold buildGroup at h
  obtain ⟨items, hitems, h⟩ := bind_ok h
  cases h
  obtain ⟨hp, he⟩ := foldlM_append_nil (S := fun _ i => i < db.tables.length) (R := fun j i => j ≠ i) hitems
    (fun acc tn acc' hs => by
      obtain ⟨i, rfl, hni, hir⟩ := groupStep_ok _ _ _ _ hs
      exact ⟨i, rfl, hir, fun j hj e => hni (e ▸ hj)⟩)
  exact ⟨hp, rfl, fun i hi => (he.mem hi).elim fun _ h => h.2⟩

theorem buildGroup_error (db : Db) (g : Bp.GroupBp) (e : PErr) (h : buildGroup db g = .error e) :
    e = .lib "ValidationError" ∨ e = .lib "TableNotFoundError" := by
  unfold buildGroup at h
  rcases bind_error h with h1 | ⟨_, _, h2⟩
  · obtain ⟨acc, tn, _, hs⟩ := foldlM_error h1
    exact groupStep_error _ acc tn e hs
  · cases h2

/-- the built reference is `mk t1 c1 t2 c2` for some `mk` of which only the fields are said, so that the record
    need not be repeated -/
theorem buildRef_inv (db : Db) (rb : Bp.RefBp) :
    (∃ e, buildRef db rb = .error e ∧ (e = .lib "TableNotFoundError" ∨ e = .lib "ColumnNotFoundError"))
    ∨ ∃ (tn1 tn2 cn1 cn2 : Str) (mk : Nat → List Nat → Nat → List Nat → Ref), rb.table1 = some tn1 ∧ rb.table2 = some tn2 ∧ rb.col1 = some cn1 ∧ rb.col2 = some cn2
        ∧ (buildRef db rb = do
            let t1 ← locateTable db.tables rb.schema1 tn1
            let c1 ← colsAt db.tables t1 cn1
            let t2 ← locateTable db.tables rb.schema2 tn2
            let c2 ← colsAt db.tables t2 cn2
            pure (mk t1 c1 t2 c2))
        ∧ ∀ t1 c1 t2 c2, (mk t1 c1 t2 c2 : Ref).t1 = t1 ∧ (mk t1 c1 t2 c2).col1 = c1 ∧ (mk t1 c1 t2 c2).t2 = t2
            ∧ (mk t1 c1 t2 c2).col2 = c2 ∧ (mk t1 c1 t2 c2).kind = rb.kind ∧ (mk t1 c1 t2 c2).onUpdate = rb.onUpdate
            ∧ (mk t1 c1 t2 c2).onDelete = rb.onDelete ∧ (mk t1 c1 t2 c2).inlineFlag = rb.inline := by
  unfold buildRef
  cases hA : rb.table1 with
  | none => exact .inl ⟨_, rfl, .inl rfl⟩
  | some tn1 =>
  cases hB : rb.table2 with
  | none => exact .inl ⟨_, rfl, .inl rfl⟩
  | some tn2 =>
  cases hC : rb.col1 with
  | none => exact .inl ⟨_, rfl, .inr rfl⟩
  | some cn1 =>
  cases hD : rb.col2 with
  | none => exact .inl ⟨_, rfl, .inr rfl⟩
  | some cn2 =>
  exact .inr ⟨tn1, tn2, cn1, cn2, _, rfl, rfl, rfl, rfl, rfl, fun _ _ _ _ => ⟨rfl, rfl, rfl, rfl, rfl, rfl, rfl, rfl⟩⟩

theorem refStep_ok (db1 : Db) (acc : List Ref) (rb : Bp.RefBp) (acc' : List Ref)
    (h : refStep db1 acc rb = .ok acc') :
    ∃ r, acc' = acc ++ [r] ∧ buildRef db1 rb = .ok r ∧ ∀ m ∈ acc, refEq db1 r m = false := by
  unfold refStep at h
  obtain ⟨r, hr, h⟩ := bind_ok h
  split at h
  · cases h
  · rename_i hc
    cases h
    -- `Reference.__eq__` looks at the tables only, not at the references collected so far
    have hc' : ∀ m ∈ acc, refEq { db1 with refs := acc } r m = false := by simpa using hc
    exact ⟨r, rfl, hr, hc'⟩

/-- element by element: each member is the one built from the blueprint at its position and was admitted by its
    uniqueness rule against everything before it -/
theorem buildDatabase_spec (ap : Bool) (es : List Bp.Elem) (db : Db) (h : buildDatabase ap es = .ok db) :
    (db.enums.Pairwise EnumsDiffer ∧ Each (fun eb e => buildEnum eb = .ok e) (enumBps es) db.enums)
    ∧ (db.tables.Pairwise DisjointKeys
        ∧ Each (fun tb t => buildTable db.enums tb = .ok t) (tableBps es) db.tables)
    ∧ (db.groups.Pairwise (fun a b => a.name ≠ b.name)
        ∧ Each (fun gb g => buildGroup db gb = .ok g) (groupBps es) db.groups)
    ∧ (db.refs.Pairwise (fun m r => refEq db r m = false)
        ∧ Each (fun rb r => buildRef db rb = .ok r) (refBlueprints es) db.refs) := by
  unfold buildDatabase at h
  obtain ⟨enums, hE, h⟩ := bind_ok h
  obtain ⟨tables, hT, h⟩ := bind_ok h
  obtain ⟨groups, hG, h⟩ := bind_ok h
  obtain ⟨project, hP, h⟩ := bind_ok h
  obtain ⟨refs, hR, h⟩ := bind_ok h
  cases h
  -- `buildGroup`, `buildRef` and `refEq` read only the tables of the database they are given
  refine ⟨foldlM_append_nil hE ?_, foldlM_append_nil hT ?_, foldlM_append_nil hG ?_, foldlM_append_nil hR ?_⟩
  · intro acc eb acc' hs
    obtain ⟨e, he, hs⟩ := bind_ok hs
    obtain ⟨rfl, hd⟩ := addEnum_ok _ _ _ hs
    exact ⟨e, rfl, he, hd⟩
  · intro acc tb acc' hs
    obtain ⟨t, ht, hs⟩ := bind_ok hs
    obtain ⟨rfl, hd⟩ := addTable_ok _ _ _ hs
    exact ⟨t, rfl, ht, hd⟩
  · intro acc gb acc' hs
    obtain ⟨g, hg, hs⟩ := bind_ok hs
    split at hs
    · cases hs
    · rename_i hc
      cases hs
      have hc' : ∀ x ∈ acc, ¬ x.name = g.name := by simpa using hc
      exact ⟨g, rfl, hg, hc'⟩
  · intro acc rb acc' hs
    obtain ⟨r, rfl, hr, hd⟩ := refStep_ok _ _ _ _ hs
    exact ⟨r, rfl, hr, hd⟩

structure RuleAbiding (db : Db) : Prop where
  tables : db.tables.Pairwise DisjointKeys
  enums : db.enums.Pairwise EnumsDiffer
  groups : db.groups.Pairwise (fun a b => a.name ≠ b.name)
  groupItems : ∀ g ∈ db.groups, g.items.Nodup ∧ ∀ i ∈ g.items, i < db.tables.length
  refs : db.refs.Pairwise (fun m r => refEq db r m = false)

/-- **C06, database level.** Whatever `build_database` returns abides by every uniqueness rule and holds every
    declared table, enum and group, in order, under its declared name, and as many references as were declared: a
    document declaring a clash (tables, aliases, enums, groups, a table twice in a group, a reference twice)
    cannot yield a database. -/
theorem build_rule_abiding (ap : Bool) (es : List Bp.Elem) (db : Db)
    (h : buildDatabase ap es = .ok db) :
    RuleAbiding db
    ∧ db.tables.map (fun t => (t.schema, t.name)) = (tableBps es).map (fun t => (t.schema, t.name))
    ∧ db.enums.map (fun e => (e.schema, e.name)) = (enumBps es).map (fun e => (e.schema, e.name))
    ∧ db.groups.map (·.name) = (groupBps es).map (·.name)
    ∧ db.refs.length = (refBlueprints es).length := by
  obtain ⟨⟨pE, eE⟩, ⟨pT, eT⟩, ⟨pG, eG⟩, ⟨pR, eR⟩⟩ := buildDatabase_spec ap es db h
  refine ⟨⟨pT, pE, pG, fun g hg => ?_, pR⟩, ?_, ?_, ?_, eR.1⟩
  · obtain ⟨gb, _, hgb⟩ := eG.mem hg
    exact ⟨(buildGroup_ok _ _ _ hgb).1, (buildGroup_ok _ _ _ hgb).2.2⟩
  · refine eT.map fun tb t ht => ?_
    obtain ⟨_, _, _, _, _, rfl⟩ := buildTable_inv ht
    rfl
  · exact eE.map fun eb e he => by cases he; rfl
  · exact eG.map fun gb g hg => (buildGroup_ok _ _ _ hg).2.1

end C06
end PyDBML
