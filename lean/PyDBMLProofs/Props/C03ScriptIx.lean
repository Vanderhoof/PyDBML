/-
C03/C04 — whole scripts with indexes: enums, tables each followed by its `CREATE INDEX` statements, standalone references
(`read_render_script_ix`).
-/
import PyDBMLModel
import PyDBMLProofs.Props.C03Script
import PyDBMLProofs.Props.C03Index
namespace PyDBML
namespace C03
open Sql C04

/-- the columns an index is over (column subjects) -/
def ixCols (ix : Index) : List Nat := ix.subjects.filterMap fun s => match s with | .col i => some i | _ => none

/-- the indexes the reader theorem covers: not a pk index, no comment, column subjects only (at least one), no double
    quote in a name, a type word without a blank, the statement is one line (`oneLine`: as in `FkReadable`) -/
structure IxReadable (t : Table) (ix : Index) : Prop where
  notPk : ix.pk = false
  comment : ix.comment = none
  cols : ix.subjects = (ixCols ix).map Subject.col
  inRange : ∀ i ∈ ixCols ix, i < t.columns.length
  ne : ixCols ix ≠ []
  quotesT : '"' ∉ t.schema ∧ '"' ∉ t.name
  quotesC : ∀ n ∈ namesAt t (ixCols ix), '"' ∉ n
  quotesN : ∀ n, ix.name = some n → '"' ∉ n
  typeWord : ' ' ∉ upperAscii (ix.type.getD [])
  oneLine : NoBreak (indexLine t ix (ixCols ix))

def tableStmts (db : Db) (t : Table) : List Stmt :=
  Stmt.table (tabDescOf db t) :: t.indexes.map fun ix => Stmt.index (indexDescOf t ix (ixCols ix))

def scriptStmtsIx (db : Db) : List Stmt :=
  db.enums.map (fun e => Stmt.enum (enumDescOf e)) ++ db.tables.flatMap (tableStmts db)
    ++ db.refs.map fun r => Stmt.fk (fkDescOf r (stOf db r) (rtOf db r))

structure ScriptReadableIx (db : Db) : Prop where
  enums : ∀ e ∈ db.enums, EnumReadable e
  tables : ∀ t ∈ db.tables, ReadableIx db t ∧ ∀ ix ∈ t.indexes, IxReadable t ix
  refs : ∀ r ∈ db.refs, FkReadable db r
  some : db.tables ≠ []

theorem readBlock_createIndex (u : Bool) (X : Str) :
    readBlock [lit "CREATE " ++ ((if u then lit "UNIQUE " else []) ++ (lit "INDEX " ++ X))]
      = (readIndex (lit "CREATE " ++ ((if u then lit "UNIQUE " else []) ++ (lit "INDEX " ++ X)))).map Stmt.index := by
  -- `L`: the line, written once; its literals are spelt out before the four tests are evaluated
  have h : ∀ L, L = lit "CREATE " ++ ((if u then lit "UNIQUE " else []) ++ (lit "INDEX " ++ X)) →
      (lit "CREATE TYPE ").isPrefixOf L = false ∧ (lit "CREATE TABLE ").isPrefixOf L = false
      ∧ (lit "ALTER TABLE ").isPrefixOf L = false ∧ (lit "CREATE ").isPrefixOf L = true := by
    rintro L rfl
    repeat rw [lit_eq rfl]
    cases u <;> exact ⟨rfl, rfl, rfl, rfl⟩
  obtain ⟨h1, h2, h3, h4⟩ := h _ rfl
  simp only [readBlock, h1, h2, h3, h4, Bool.false_eq_true, ↓reduceIte, false_and, and_self]

theorem IxReadable.reads {t : Table} {ix : Index} (h : IxReadable t ix) :
    (indexLine t ix (ixCols ix) ≠ [] ∧ '\n' ∉ indexLine t ix (ixCols ix))
    ∧ readBlock [indexLine t ix (ixCols ix)] = some (Stmt.index (indexDescOf t ix (ixCols ix))) := by
  obtain ⟨Y, e⟩ : ∃ Y, indexLine t ix (ixCols ix)
      = lit "CREATE " ++ ((if ix.unique then lit "UNIQUE " else []) ++ (lit "INDEX " ++ Y)) := by
    simp only [indexLine, List.append_assoc]; exact ⟨_, rfl⟩
  refine ⟨⟨fun e0 => ?_, noBreak_nl h.oneLine⟩, ?_⟩
  · rw [e0, lit_eq rfl] at e; simp at e
  · rw [e, readBlock_createIndex, ← e, readIndex_indexLine t ix _ h.ne h.quotesT h.quotesC h.quotesN h.typeWord]; rfl

theorem ReadableIx.renders {db : Db} {t : Table} (h : ReadableIx db t) (hix : ∀ ix ∈ t.indexes, IxReadable t ix) :
    Renders readBlock (renderTableWith db t []) (tableStmts db t) := by
  rw [renderTable_text db t h (fun ix => indexLine t ix (ixCols ix)) fun ix hi =>
    renderIndex_line t ix _ (hix ix hi).notPk (hix ix hi).comment (hix ix hi).cols (hix ix hi).inRange]
  have h0 : Readable db { t with indexes := [] } := h.1
  exact Renders.append_lines _ _ t.indexes (.single (B := (tabDescOf db t).lines) h0.tabDesc.1 rfl h0.reads)
    fun ix hi => (hix ix hi).reads

/-- **the reader inverts the script renderer, with indexes**: for a database of covered enums, covered tables with
    covered indexes and covered standalone references, the script is read back to: one
    CREATE TYPE per enum, then per table in declaration order its CREATE TABLE followed by one CREATE INDEX per index in
    order, then one ALTER TABLE … FOREIGN KEY per reference - each with exactly the model's content, and nothing else. -/
theorem read_render_script_ix (db : Db) (h : ScriptReadableIx db) :
    ∃ text, renderDb db = .ok text ∧ readScriptAll text = some (scriptStmtsIx db) := by
  have := (renders_db db (fun r hr => (h.refs r hr).standalone) _ _ _ (fun e he => (h.enums e he).renders)
    (fun t ht => (h.tables t ht).1.renders (h.tables t ht).2) (fun r hr => (h.refs r hr).renders) h.some).read
  simpa only [← List.map_eq_flatMap, readScriptAll, scriptStmtsIx] using this

/-- an enum, two tables (the second with a composite key, a default, and a unique named index), a reference `<` -/
def exDb : Db :=
  { enums := [{ name := lit "status", schema := lit "s", items := [{ name := lit "new" }, { name := lit "done" }] }],
    tables := [
      { name := lit "users", columns := [{ name := lit "id", type := .plain (lit "int"), pk := true, autoinc := true }] },
      { name := lit "orders", schema := lit "shop", columns := [
          { name := lit "user id", type := .plain (lit "int"), pk := true, notNull := true },
          { name := lit "no", type := .plain (lit "int"), pk := true, default := some (.int (lit "0")) }],
        indexes := [{ subjects := [.col 1, .col 0], name := some (lit "by no"), unique := true, type := some (lit "btree") }] }],
    refs := [{ kind := .oneToMany, t1 := 0, col1 := [0], t2 := 1, col2 := [0], onDelete := some (lit "cascade") }] }

example : ScriptReadableIx exDb := by
  unfold exDb
  repeat rw [lit_eq rfl]
  refine ⟨?_, ?_, ?_, by decide⟩
  · intro e he
    simp only [List.mem_cons, List.mem_nil_iff, or_false] at he
    subst he
    refine ⟨by decide, rfl, ?_, ⟨by decide, by decide⟩⟩
    intro i hi
    simp only [List.mem_cons, List.mem_nil_iff, or_false] at hi
    rcases hi with rfl | rfl <;> exact ⟨rfl, by decide⟩
  · intro t ht
    simp only [List.mem_cons, List.mem_nil_iff, or_false] at ht
    rcases ht with rfl | rfl
    · refine ⟨⟨⟨by decide, rfl, rfl, rfl, ⟨by decide, by decide⟩, ?_, ?_, ?_, ?_⟩, by intro ix h; cases h⟩, by intro ix h; cases h⟩
      all_goals
        intro c hc
        simp only [List.mem_cons, List.mem_nil_iff, or_false] at hc
        subst hc
      · exact ⟨rfl, rfl⟩
      · rfl
      · decide +kernel
      · exact ⟨by decide, by decide +kernel, fun d hd => by cases hd⟩
    · refine ⟨⟨⟨by decide, rfl, rfl, rfl, ⟨by decide, by decide⟩, ?_, ?_, ?_, ?_⟩, ?_⟩, ?_⟩
      · intro c hc
        simp only [List.mem_cons, List.mem_nil_iff, or_false] at hc
        rcases hc with rfl | rfl <;> exact ⟨rfl, rfl⟩
      · intro c hc
        simp only [List.mem_cons, List.mem_nil_iff, or_false] at hc
        rcases hc with rfl | rfl <;> rfl
      · intro c hc
        simp only [List.mem_cons, List.mem_nil_iff, or_false] at hc
        rcases hc with rfl | rfl <;> decide +kernel
      · intro c hc
        simp only [List.mem_cons, List.mem_nil_iff, or_false] at hc
        rcases hc with rfl | rfl
        · exact ⟨by decide, by decide +kernel, fun d hd => by cases hd⟩
        · refine ⟨by decide, by decide +kernel, fun d hd => ?_⟩
          cases hd; decide +kernel
      · intro ix hix
        simp only [List.mem_cons, List.mem_nil_iff, or_false] at hix
        subst hix; rfl
      · intro ix hix
        simp only [List.mem_cons, List.mem_nil_iff, or_false] at hix
        subst hix
        exact ⟨rfl, rfl, rfl, by decide, by decide, ⟨by decide, by decide⟩, by decide +kernel, (by intro n h; cases h; decide),
          by decide +kernel, by decide +kernel⟩
  · intro r hr
    simp only [List.mem_cons, List.mem_nil_iff, or_false] at hr
    subst hr
    exact ⟨by decide, rfl, by decide, by decide, by decide +kernel, by decide +kernel, rfl, by decide, by decide,
      by decide +kernel, by decide +kernel, (by intro n h; cases h), by decide +kernel⟩

/-- … and its script, computed -/
example : (renderDb exDb).toOption = some (lit "CREATE TYPE \"s\".\"status\" AS ENUM (\n  'new',\n  'done'\n);\n\nCREATE TABLE \"users\" (\n  \"id\" int PRIMARY KEY AUTOINCREMENT\n);\n\nCREATE TABLE \"shop\".\"orders\" (\n  \"user id\" int NOT NULL,\n  \"no\" int DEFAULT 0,\n  PRIMARY KEY (\"user id\", \"no\")\n);\n\nCREATE UNIQUE INDEX \"by no\" ON \"shop\".\"orders\" USING BTREE (\"no\", \"user id\");\n\nALTER TABLE \"shop\".\"orders\" ADD FOREIGN KEY (\"user id\") REFERENCES \"users\" (\"id\") ON DELETE CASCADE;") := by
  repeat rw [lit_eq rfl]
  decide +kernel

end C03
end PyDBML
