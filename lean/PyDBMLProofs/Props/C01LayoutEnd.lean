/-
C01 — runs of line breaks: `_c` over any number of empty lines and an optional comment line, and what happens where only
line breaks are left before the end of the text.
-/
import PyDBMLProofs.Props.C02Comment
namespace PyDBML
namespace C02
open Lex Grammar Build

/-- `_c` after the end rule of the previous element consumed one line break: `k` further empty lines, a line break, an
    optional comment line, then the element -/
theorem cBefore_nls_comment (c : Cur) (cm : Option Str) (k : Nat) (x : Char) (xr : Str) (hxw : isWs x = false) (hx1 : x ≠ '\n')
    (hx2 : x ≠ '/') (hc : c.rest = List.replicate k '\n' ++ '\n' :: (commentText cm ++ x :: xr)) (hp : c.pastEnd = false)
    (hcm : CmOK cm) :
    ∃ c0, cBefore c = .ok (cmList cm) c0 ∧ c0.rest = x :: xr ∧ c0.pastEnd = false
      ∧ ∀ p, c0.prev = some p → isKwIdent p = false :=
  let ⟨c0, h, h0⟩ := run_cBefore_nls cm k x xr ⟨hxw, hx1, hx2⟩ hcm c ⟨hc, hp⟩
  ⟨c0, h, h0.1.1, h0.1.2, h0.prev⟩

theorem many_nls_end {α} {p : P α} {v : α} (hnl : ∀ r, Run p v (At ('\n' :: r)) (At r)) (hstop : Fails p (At []))
    (m fuel : Nat) (hf : m < fuel) : Run (many p fuel) (List.replicate m v) (At (List.replicate m '\n')) (At []) := by
  simpa using many_nls hnl (Run.many_stop hstop) m fuel hf

theorem quiet_nil (c : Cur) (hc : At [] c) : Quiet c := .of_end (.inr (skipWs_rest_nil c hc.1))

theorem element_fail_newlines (props : Bool) (c : Cur) (m : Nat) (hc : c.rest = List.replicate m '\n') (hp : c.pastEnd = false) :
    element props c = .fail :=
  fails_element_atEnd (bs := (List.replicate m none).filterMap id)
    ((run_cBefore (many_nls_end (fun r => (run_cbBody_nl r).post fun c hc => hc.1) (fails_cbBody.pre quiet_nil) m)
      (fun c hc => by rw [hc.1]; simp)).post fun c hc => .inr (skipWs_rest_nil c hc.1)) c ⟨hc, hp⟩

theorem skipNl_newlines (c : Cur) (m : Nat) (hc : c.rest = List.replicate m '\n') (hp : c.pastEnd = false) :
    ∃ c', skipNl c = .ok () c' ∧ c'.rest = [] :=
  let ⟨c', h, hr, _⟩ := run_skipNl (many_nls_end (fun r => .alt_left (run_sym toList_nl (by decide) 0 r))
    (fails_nlBody.pre quiet_nil) m) (fun c hc => by rw [hc.1]; simp) c ⟨hc, hp⟩
  ⟨c', h, hr⟩

end C02
end PyDBML
