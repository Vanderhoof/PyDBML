/-
C02/C01 — column settings in the round trip.  A column's settings are one list, `FCol.flags`; an item has its text, the
setting the grammar reads it as and what makes it readable.  `column_setting` reads an item by the word it begins with
(the nine words clash pairwise: `run_firstWord`), `parse_column_settings` folds the settings read to the blueprint
(`FCol.fold_bp`), `render_column` lists the same items slot by slot (`FCol.colOpts_eq`).
-/
import PyDBMLProofs.Props.C02FormTables
import PyDBMLProofs.Props.C02Refs
namespace PyDBML
namespace C02
open Lex Grammar Build

inductive Flag where | pk | increment | unique | notNull | note (t : Str) | prop (k v : Str) | defInt (d : Str)
  | ref (k : RefKind) (tn cn : Str) | defStr (t : Str) | defExpr (e : Str)
  deriving DecidableEq

def Flag.text : Flag → Str
  | .pk => ['p', 'k']
  | .increment => ['i', 'n', 'c', 'r', 'e', 'm', 'e', 'n', 't']
  | .unique => ['u', 'n', 'i', 'q', 'u', 'e']
  | .notNull => ['n', 'o', 't', ' ', 'n', 'u', 'l', 'l']
  | .note t => 'n' :: 'o' :: 't' :: 'e' :: ':' :: ' ' :: '\'' :: (prepareTextForDbml t ++ ['\''])
  | .prop k v => k ++ ':' :: ' ' :: '\'' :: (prepareTextForDbml v ++ ['\''])
  | .defInt d => 'd' :: 'e' :: 'f' :: 'a' :: 'u' :: 'l' :: 't' :: ':' :: ' ' :: d
  | .ref k tn cn => IRefT.text { kind := k, tn := tn, cn := cn }
  | .defStr t => 'd' :: 'e' :: 'f' :: 'a' :: 'u' :: 'l' :: 't' :: ':' :: ' ' :: '\'' :: (prepareTextForDbml t ++ ['\''])
  | .defExpr e => 'd' :: 'e' :: 'f' :: 'a' :: 'u' :: 'l' :: 't' :: ':' :: ' ' :: '`' :: (e ++ ['`'])

/-- the words a setting may begin with: a property key beginning with one of them is read as that setting
    (KF-C01-prop-key-kw-prefix) -/
def settingWords : List String :=
  ["not null", "null", "primary key", "pk", "unique", "increment", "note:", "ref:", "default:"]

/-- no setting word is a prefix of the key with ANY continuation `r`, not only the `: '` that follows: this also excludes the
    proper prefixes of the words (`n`, `def`, …), which do round-trip -/
def KeyOK (k : Str) : Prop :=
  k ≠ [] ∧ k.all isNameChar = true ∧ ∀ kw ∈ settingWords, ∀ r, startsWithCaseless (k ++ r) kw.toList = false

/-- no leading zero: so not `0`, which `if model.default:` takes for "no default" (FalsyDefault); at most 4300 digits
    (KF-C08-huge-int) -/
def DigitsOK (d : Str) : Prop := d ≠ [] ∧ d.all isDigit = true ∧ d.head? ≠ some '0' ∧ d.length ≤ 4300

/-- not empty (`if model.default:` takes '' for "no default") and not one of the words `default_to_str` writes bare
    (`null`, `true`, `false` in any case) -/
def DStrOK (t : Str) : Prop :=
  Plain t ∧ hasTriple t = false ∧ t ≠ [] ∧ lowerAscii t ≠ lit "null" ∧ lowerAscii t ≠ lit "true" ∧ lowerAscii t ≠ lit "false"

def DExprOK (e : Str) : Prop := e ≠ [] ∧ ∀ ch ∈ e, ch ≠ '`' ∧ isLineBreak ch = false ∧ ch ≠ '\t'

def Flag.ok (props : Bool) : Flag → Prop
  | .note t => Plain t ∧ hasTriple t = false
  | .prop k v => props = true ∧ KeyOK k ∧ Plain v ∧ hasTriple v = false
  | .defInt d => DigitsOK d
  | .ref _ tn cn => NameOK tn ∧ NameOK cn
  | .defStr t => DStrOK t
  | .defExpr e => DExprOK e
  | _ => True

def Flag.setting : Flag → ColSetting
  | .pk => .pk
  | .increment => .increment
  | .unique => .unique
  | .notNull => .notNull true
  | .note t => .note t
  | .prop k v => .prop k v
  | .defInt d => .default (.int d)
  | .ref k tn cn => .ref (IRefT.bp { kind := k, tn := tn, cn := cn })
  | .defStr t => .default (.str t)
  | .defExpr e => .default (.expr e)

/-- `col_name` is `ref_cols` (`run_refCols`, C02Refs) without the composite form of the column -/
theorem run_colName (n : Nat) (t col after : Str) (ht : NameOK t) (hc : NameOK col) (hdot : Fails (sym ".") (At after)) :
    Run colName (none, t, col) (At (List.replicate n ' ' ++ sideText t col after)) (At after) :=
  .alt_right
    (.bind_after (run_nameQ n t _ ht) (.bind_after (run_sym toList_dot (by decide) 0 _)
      (.bind_after (run_nameQ 0 col _ hc) (.bind hdot))))
    (.bind (run_nameQ n t _ ht) (.bind (run_sym toList_dot (by decide) 0 _) (.bind (run_nameQ 0 col _ hc) .pure)))

theorem run_refInline (r : IRefT) (after : Str) (htn : NameOK r.tn) (hcn : NameOK r.cn) (hdot : Fails (sym ".") (At after)) :
    Run refInline r.bp (AtWs ('r' :: 'e' :: 'f' :: ':' :: ' ' :: (r.kind.sym ++ ' ' :: sideText r.tn r.cn after))) (At after) :=
  .bind (run_clit_ws toList_refC _) (.cut (.bind (run_relation 1 r.kind _)
    (.bind (run_colName 1 r.tn r.cn after htn hcn hdot) .pure)))

theorem run_default_str (t r : Str) (ht : DStrOK t) :
    Run defaultRule (.str t)
      (AtWs ('d' :: 'e' :: 'f' :: 'a' :: 'u' :: 'l' :: 't' :: ':' :: ' ' :: '\'' :: (prepareTextForDbml t ++ '\'' :: r))) (At r) :=
  .bind (run_clit_ws toList_defaultC _) (.cut (.bind (stay_skipNl (endOK_at 1 '\'' _ (by decide)))
    (.alt_left (.bind (run_string 1 t r (oneLine_of_plain t ht.1) ht.2.1 (Or.inl ht.2.2.1)) .pure))))

theorem run_default_expr (e r : Str) (he : DExprOK e) :
    Run defaultRule (.expr e) (AtWs ('d' :: 'e' :: 'f' :: 'a' :: 'u' :: 'l' :: 't' :: ':' :: ' ' :: '`' :: (e ++ '`' :: r))) (At r) :=
  .bind (run_clit_ws toList_defaultC _) (.cut (.bind (stay_skipNl (endOK_at 1 '`' _ (by decide)))
    (.alt_right (.bind (fails_stringLiteral 1 '`' _ (by decide) (by decide) (by decide)))
      (.alt_left (.bind (run_expressionLiteral 1 e r fun ch hch => (he.2 ch hch).1) .pure)))))

theorem pyUpper1_digit (d : Char) (hd : isDigit d = true) : pyUpper1 d = d := by
  simp only [isDigit, Bool.and_eq_true, decide_eq_true_eq] at hd
  have h1 : ('0' : Char).toNat ≤ d.toNat := hd.1
  have h2 : d.toNat ≤ ('9' : Char).toNat := hd.2
  simp only [Char.reduceToNat] at h1 h2
  have h3 : ¬ ('a' ≤ d ∧ d ≤ 'z') := fun h => by
    have : ('a' : Char).toNat ≤ d.toNat := h.1
    simp only [Char.reduceToNat] at this; omega
  unfold pyUpper1 asciiUpper
  rw [if_neg (by omega), if_neg (by omega), if_neg h3]

theorem fails_booleanLiteral (k : Nat) (d : Char) (r : Str) (hw : isWs d = false) (hd : isDigit d = true) :
    Fails booleanLiteral (At (List.replicate k ' ' ++ d :: r)) := by
  have hu : ∀ y : Char, isDigit (pyUpper1 y) = false → (pyUpper1 y == pyUpper1 d) = false := by
    intro y hy; rw [pyUpper1_digit d hd, beq_eq_false_iff_ne]; rintro rfl; rw [hd] at hy; cases hy
  exact .alt (.bind (fails_clit_head toList_true k d r hw (hu 't' (by decide))))
    (.alt (.bind (fails_clit_head toList_false k d r hw (hu 'f' (by decide))))
      (.bind (fails_clit_head toList_NULL k d r hw (hu 'N' (by decide)))))

theorem run_default_int (d x : Char) (ds r : Str) (hd : DigitsOK (d :: ds)) (hx : isDigit x = false) (hdot : x ≠ '.') :
    Run defaultRule (.int (d :: ds))
      (AtWs ('d' :: 'e' :: 'f' :: 'a' :: 'u' :: 'l' :: 't' :: ':' :: ' ' :: d :: (ds ++ x :: r))) (At (x :: r)) := by
  have hd0 : isDigit d = true := by have := hd.2.1; simp only [List.all_cons, Bool.and_eq_true] at this; exact this.1
  have hf := nameChar_facts d (by simp [isNameChar, isAlnum, hd0])
  have hq : d ≠ '\'' ∧ d ≠ '"' ∧ d ≠ '`' := by refine ⟨?_, ?_, ?_⟩ <;> (rintro rfl; cases hd0)
  have hnv : numberValue (d :: ds) = ppure (Bp.DefaultBp.int (d :: ds)) := by
    have hnodot : (d :: ds).contains '.' = false := by
      rw [List.contains_eq_mem, decide_eq_false_iff_not]
      exact fun hm => by have := List.all_eq_true.mp hd.2.1 '.' hm; cases this
    unfold numberValue
    rw [hnodot, if_neg Bool.false_ne_true, if_neg (Nat.not_lt.mpr hd.2.2.2)]
  refine .bind (run_clit_ws toList_defaultC _) (.cut (.bind (stay_skipNl (endOK_at 1 d _ hf)) ?_))
  refine .alt_right (.bind (fails_stringLiteral 1 d _ hf.1 hq.1 hq.2.1)) ?_
  refine .alt_right (.bind (fails_expressionLiteral 1 d _ hf.1 hq.2.2)) ?_
  refine .alt_right (fails_booleanLiteral 1 d _ hf.1 hd0) ?_
  exact .bind (run_numberLiteral 1 d ds x r hd.2.1 hx hdot) (hnv ▸ .pure)

theorem run_prop (a : Char) (as v r : Str) (hk : KeyOK (a :: as)) (hv : Plain v) (h3 : hasTriple v = false)
    (hr : v ≠ [] ∨ r.head? ≠ some '\'') :
    Run prop (a :: as, v) (AtWs (a :: (as ++ ':' :: ' ' :: '\'' :: (prepareTextForDbml v ++ '\'' :: r)))) (At r) :=
  .bind (run_name_ws a as _ hk.2.1 (by intro y hy; cases hy; decide)) (.bind (run_sym toList_colon (by decide) 0 _)
    (.bind (run_string 1 v r (oneLine_of_plain v hv) h3 hr) .pure))

/-- the alternatives of `column_setting` in the grammar's order, each with the word it begins with -/
def settingRules : List (String × P ColSetting) :=
  [("not null", do clit "not null"; pure (ColSetting.notNull true)), ("null", do clit "null"; pure (ColSetting.notNull false)),
   ("primary key", do clit "primary key"; pure ColSetting.pk), ("pk", do clit "pk"; pure ColSetting.pk),
   ("unique", do clit "unique"; pure ColSetting.unique), ("increment", do clit "increment"; pure ColSetting.increment),
   ("note:", do let t ← noteRule; pure (ColSetting.note t)), ("ref:", do let r ← refInline; pure (ColSetting.ref r)),
   ("default:", do let d ← defaultRule; pure (ColSetting.default d))]

theorem columnSetting_eq :
    columnSetting = (do skipNl; let r ← firstOf (settingRules.map (·.2)); skipNl; pure r) := rfl

theorem settingRules_words : settingRules.map (·.1) = settingWords := rfl

theorem settingRules_clash : (settingRules.map (·.1.toList)).Pairwise (Clash · · = true) := by
  simp only [settingRules, List.map_cons, List.map_nil, toList_notNull, toList_null, toList_primaryKey, toList_pk,
    toList_unique, toList_increment, toList_noteC, toList_refC, toList_defaultC]
  decide

theorem settingRules_fail : ∀ d ∈ settingRules, ∀ A, Fails (clit d.1) A → Fails d.2 A := by
  intro d hd A h
  simp only [settingRules, List.mem_cons, List.mem_nil_iff, or_false] at hd
  rcases hd with rfl | rfl | rfl | rfl | rfl | rfl | rfl | rfl | rfl
  -- six alternatives are `clit w >>= …`; in the last three the word is the first step of `noteRule`, `refInline`, `defaultRule`
  iterate 6 exact .bind h
  iterate 3 exact .bind (.bind h)

theorem run_columnSetting {pre post : List (String × P ColSetting)} {e : String × P ColSetting}
    (hs : settingRules = pre ++ e :: post) {x : Char} {w : Str} (hw : e.1.toList = x :: w) (hx : x ≠ '\n' ∧ x ≠ '/')
    (tail : Str) {a : Str} (ha : EndOK a) {v : ColSetting} (he : Run e.2 v (AtWs (x :: (w ++ tail))) (At a)) :
    Run columnSetting v (AtWs (x :: (w ++ tail))) (At a) := by
  rw [columnSetting_eq]
  exact .bind (stay_skipNl_ws hx.1 hx.2)
    (.bind (run_firstWord hs settingRules_clash settingRules_fail hw tail he) (.bind (stay_skipNl ha) .pure))

theorem fails_columnSetting_key (a : Char) (as r : Str) (hk : KeyOK (a :: as)) :
    Fails columnSetting (AtWs (a :: (as ++ r))) := by
  have ha := nameChar_facts a (by have := hk.2.1; simp only [List.all_cons, Bool.and_eq_true] at this; exact this.1)
  rw [columnSetting_eq]
  refine .bind_after (stay_skipNl_ws ha.2.1 ha.2.2) (.bind (.first fun q hq => ?_))
  obtain ⟨d, hd, rfl⟩ := List.mem_map.mp hq
  exact settingRules_fail d hd _ (fails_clit_ws rfl (hk.2.2 d.1 (settingRules_words ▸ List.mem_map_of_mem hd) r))

def moreFlags : List Flag → Str
  | [] => []
  | w :: ws => ',' :: ' ' :: (w.text ++ moreFlags ws)

theorem flag_text_head (props : Bool) (w : Flag) (hw : w.ok props) :
    ∃ y r, w.text = y :: r ∧ isWs y = false ∧ y ≠ '\n' ∧ y ≠ '/' := by
  cases w with
  | prop k v =>
    obtain ⟨a, as, rfl⟩ := List.exists_cons_of_ne_nil hw.2.1.1
    exact ⟨a, _, rfl, nameChar_facts a (by have := hw.2.1.2.1; simp only [List.all_cons, Bool.and_eq_true] at this; exact this.1)⟩
  | _ => exact ⟨_, _, rfl, by decide, by decide, by decide⟩

theorem run_setting (props : Bool) (w : Flag) (hw : w.ok props) (hnp : ∀ k v, w ≠ Flag.prop k v) (x : Char) (rest : Str)
    (hx : x = ',' ∨ x = ']') : Run columnSetting w.setting (AtWs (w.text ++ x :: rest)) (At (x :: rest)) := by
  have hx' : isWs x = false ∧ x ≠ '\n' ∧ x ≠ '/' ∧ x ≠ '.' ∧ isDigit x = false ∧ x ≠ '\'' := by
    rcases hx with rfl | rfl <;> decide
  have ha : EndOK (x :: rest) := endOK_at 0 x rest ⟨hx'.1, hx'.2.1, hx'.2.2.1⟩
  cases w with
  | prop k v => exact absurd rfl (hnp k v)
  | notNull =>
    exact run_columnSetting (pre := []) (post := settingRules.drop 1) rfl toList_notNull (by decide) _ ha
      (.bind (run_clit_ws toList_notNull _) .pure)
  | pk =>
    exact run_columnSetting (pre := settingRules.take 3) (post := settingRules.drop 4) rfl toList_pk (by decide) _ ha
      (.bind (run_clit_ws toList_pk _) .pure)
  | unique =>
    exact run_columnSetting (pre := settingRules.take 4) (post := settingRules.drop 5) rfl toList_unique (by decide) _ ha
      (.bind (run_clit_ws toList_unique _) .pure)
  | increment =>
    exact run_columnSetting (pre := settingRules.take 5) (post := settingRules.drop 6) rfl toList_increment (by decide) _ ha
      (.bind (run_clit_ws toList_increment _) .pure)
  | note t =>
    simp only [Flag.text, List.cons_append, List.append_assoc, List.nil_append]
    exact run_columnSetting (pre := settingRules.take 6) (post := settingRules.drop 7) rfl toList_noteC (by decide) _ ha
      (.bind (run_noteRule_ws t _ hw.1 hw.2 (Or.inr (by simpa using hx'.2.2.2.2.2))) .pure)
  | ref k tn cn =>
    simp only [Flag.text, IRefT.text, List.cons_append, List.append_assoc, List.nil_append]
    exact run_columnSetting (pre := settingRules.take 7) (post := settingRules.drop 8) rfl toList_refC (by decide) _ ha
      (.bind (run_refInline ⟨k, tn, cn⟩ _ hw.1 hw.2 (fails_sym toList_dot 0 x rest hx'.1 hx'.2.2.2.1)) .pure)
  | defInt d =>
    obtain ⟨d0, ds, rfl⟩ := List.exists_cons_of_ne_nil hw.1
    simp only [Flag.text, List.cons_append]
    exact run_columnSetting (pre := settingRules.take 8) (post := []) rfl toList_defaultC (by decide) _ ha
      (.bind (run_default_int d0 x ds rest hw hx'.2.2.2.2.1 hx'.2.2.2.1) .pure)
  | defStr t =>
    simp only [Flag.text, List.cons_append, List.append_assoc, List.nil_append]
    exact run_columnSetting (pre := settingRules.take 8) (post := []) rfl toList_defaultC (by decide) _ ha
      (.bind (run_default_str t _ hw) .pure)
  | defExpr e =>
    simp only [Flag.text, List.cons_append, List.append_assoc, List.nil_append]
    exact run_columnSetting (pre := settingRules.take 8) (post := []) rfl toList_defaultC (by decide) _ ha
      (.bind (run_default_expr e _ hw) .pure)

theorem columnSetting_flag (c : Cur) (w : Flag) (x : Char) (rest : Str) (hn : (skipWs c).rest = w.text ++ x :: rest)
    (hx : x = ',' ∨ x = ']') (hp : c.pastEnd = false) (props : Bool) (hw : w.ok props)
    (hnp : ∀ k v, w ≠ Flag.prop k v) :
    ∃ c', columnSetting c = .ok w.setting c' ∧ c'.rest = x :: rest ∧ c'.pastEnd = false :=
  run_setting props w hw hnp x rest hx c ⟨hn, hp⟩

theorem run_item (props : Bool) (w : Flag) (hw : w.ok props) (x : Char) (rest : Str) (hx : x = ',' ∨ x = ']') :
    Run (if props then columnSettingWithProperty else columnSetting) w.setting (AtWs (w.text ++ x :: rest))
      (At (x :: rest)) := by
  by_cases hnp : ∀ k v, w ≠ Flag.prop k v
  · have := run_setting props w hw hnp x rest hx
    cases props
    · exact this
    · exact .alt_left this
  · obtain ⟨k, v, rfl⟩ : ∃ k v, w = Flag.prop k v := by
      cases w with
      | prop k v => exact ⟨k, v, rfl⟩
      | _ => exact absurd (fun k v h => by cases h) hnp
    obtain ⟨rfl, hk, hv, h3⟩ := hw
    obtain ⟨a, as, rfl⟩ := List.exists_cons_of_ne_nil hk.1
    simp only [Flag.text, List.cons_append, List.append_assoc, List.nil_append]
    exact .alt_right (fails_columnSetting_key a as _ hk)
      (.bind (run_prop a as v _ hk hv h3 (Or.inr (by rcases hx with rfl | rfl <;> simp))) .pure)

theorem item_ok (props : Bool) (c : Cur) (w : Flag) (x : Char) (rest : Str)
    (hn : (skipWs c).rest = w.text ++ x :: rest) (hx : x = ',' ∨ x = ']') (hp : c.pastEnd = false) (hw : w.ok props) :
    ∃ c', (if props then columnSettingWithProperty else columnSetting) c = .ok w.setting c'
      ∧ c'.rest = x :: rest ∧ c'.pastEnd = false :=
  run_item props w hw x rest hx c ⟨hn, hp⟩

theorem run_item_more (props : Bool) (k : Nat) (w : Flag) (ys : List Flag) (post : Str) (hw : w.ok props) :
    Run (if props then columnSettingWithProperty else columnSetting) w.setting
      (At (List.replicate k ' ' ++ (w.text ++ (moreFlags ys ++ ']' :: post)))) (At (moreFlags ys ++ ']' :: post)) := by
  obtain ⟨y, yr, hy, hyw, _, _⟩ := flag_text_head props w hw
  obtain ⟨x, r', hxr, hx⟩ : ∃ x r', moreFlags ys ++ ']' :: post = x :: r' ∧ (x = ',' ∨ x = ']') := by
    cases ys with
    | nil => exact ⟨']', post, rfl, Or.inr rfl⟩
    | cons w2 r2 => exact ⟨',', _, rfl, Or.inl rfl⟩
  rw [hxr]
  refine (run_item props w hw x r' hx).pre fun c hc => ?_
  rw [hy] at hc ⊢
  exact AtWs.of_at k hyw c hc

theorem run_comma_item (props : Bool) (w : Flag) (ys : List Flag) (post : Str) (hw : w.ok props) :
    Run (sym "," >>= fun _ => if props then columnSettingWithProperty else columnSetting) w.setting
      (At (moreFlags (w :: ys) ++ ']' :: post)) (At (moreFlags ys ++ ']' :: post)) := by
  rw [show moreFlags (w :: ys) ++ ']' :: post = ',' :: ' ' :: (w.text ++ (moreFlags ys ++ ']' :: post)) by simp [moreFlags]]
  exact .bind (run_sym toList_comma (by decide) 0 _) (run_item_more props 1 w ys post hw)

theorem moreFlags_shrinks (post : Str) (w : Flag) (ys : List Flag) :
    (moreFlags ys ++ ']' :: post).length < (moreFlags (w :: ys) ++ ']' :: post).length := by
  simp [moreFlags]; omega

theorem many_flags (props : Bool) (ws : List Flag) (post : Str) (hws : ∀ w ∈ ws, w.ok props) :
    ∀ (fuel : Nat) (c : Cur), ws.length < fuel → c.rest = moreFlags ws ++ ']' :: post → c.pastEnd = false →
      ∃ c', many (pbind (sym ",") fun _ => (if props then columnSettingWithProperty else columnSetting)) fuel c
          = .ok (ws.map Flag.setting) c'
        ∧ c'.rest = ']' :: post ∧ c'.pastEnd = false := fun fuel c hf hc hp =>
  (Run.many_list_stop Flag.setting (fun ys => At (moreFlags ys ++ ']' :: post)) (Flag.ok props)
    (fun w ys hw => run_comma_item props w ys post hw) (fun w ys => AtE.prog (Nat.ne_of_lt (moreFlags_shrinks post w ys)))
    (.bind (fails_sym toList_comma 0 ']' post (by decide) (by decide))) ws hws fuel hf).at c hc hp

theorem endOK_more (ws : List Flag) (post : Str) : EndOK (moreFlags ws ++ ']' :: post) := by
  cases ws with
  | nil => exact endOK_at 0 ']' post (by decide)
  | cons w ws => exact endOK_at 0 ',' _ (by decide)

theorem run_more_items (props : Bool) (ws : List Flag) (post : Str) (hws : ∀ q ∈ ws, q.ok props) :
    Run (manyF (sym "," >>= fun _ => if props then columnSettingWithProperty else columnSetting)) (ws.map Flag.setting)
      (At (moreFlags ws ++ ']' :: post)) (At (']' :: post)) :=
  .manyF_list_stop Flag.setting (fun ys => moreFlags ys ++ ']' :: post) (fun _ => false) (Flag.ok props)
    (fun q ys hq => run_comma_item props q ys post hq) (moreFlags_shrinks post)
    (.bind (fails_sym toList_comma 0 ']' post (by decide) (by decide))) ws hws

theorem run_settings (props : Bool) (w : Flag) (ws : List Flag) (rest : Str) (hw : w.ok props) (hws : ∀ q ∈ ws, q.ok props) :
    Run (if props then columnSettingsWithProperties else columnSettings) (foldColSettings ((w :: ws).map Flag.setting) none)
      (AtWs ('[' :: (w.text ++ (moreFlags ws ++ ']' :: '\n' :: rest)))) (At ('\n' :: rest)) := by
  have hend : Run (do sym "]"; let cm ← cOpt; pure (foldColSettings (w.setting :: ws.map Flag.setting) cm))
      (foldColSettings ((w :: ws).map Flag.setting) none) (At (']' :: '\n' :: rest)) (At ('\n' :: rest)) :=
    .bind (run_sym toList_rbrack (by decide) 0 _) (.bind (.opt_none (fails_comment 0 '\n' rest (by decide) (by decide))) .pure)
  cases props with
  | false =>
    exact .bind (run_sym_ws toList_lbrack _) (.cut (.bind (run_item_more false 0 w ws _ hw)
      (.bind (run_more_items false ws _ hws) hend)))
  | true =>
    obtain ⟨y, yr, hy, hyw, hy1, hy2⟩ := flag_text_head true w hw
    have hE : EndOK (w.text ++ (moreFlags ws ++ ']' :: '\n' :: rest)) := hy ▸ endOK_at 0 y _ ⟨hyw, hy1, hy2⟩
    -- here the grammar has a `_` before and after the first item
    exact .bind (run_sym_ws toList_lbrack _) (.cut (.bind (stay_skipNl hE) (.bind (run_item_more true 0 w ws _ hw)
      (.bind (stay_skipNl (endOK_more ws _)) (.bind (run_more_items true ws _ hws) hend)))))

theorem settings_ok (props : Bool) (c : Cur) (w : Flag) (ws : List Flag) (rest : Str)
    (hn : (skipWs c).rest = '[' :: (w.text ++ moreFlags ws ++ ']' :: '\n' :: rest)) (hp : c.pastEnd = false)
    (hw : w.ok props) (hws : ∀ q ∈ ws, q.ok props) :
    ∃ c', (if props then columnSettingsWithProperties else columnSettings) c
        = .ok (foldColSettings ((w :: ws).map Flag.setting) none) c' ∧ c'.rest = '\n' :: rest ∧ c'.pastEnd = false :=
  run_settings props w ws rest hw hws c ⟨by rw [hn, List.append_assoc], hp⟩

def flagsText : List Flag → Str
  | [] => []
  | w :: ws => ' ' :: '[' :: (w.text ++ moreFlags ws ++ [']'])

/-- without a bracket `parse_column` starts from the empty settings dict, which is `parse_column_settings` of no setting -/
theorem tableColumn_flags (props : Bool) (c : Cur) (cn ty : Str) (ws : List Flag) (rest : Str)
    (hc : c.rest = ' ' :: ' ' :: ' ' :: ' ' :: '"' :: (cn ++ '"' :: ' ' :: (ty ++ flagsText ws ++ '\n' :: rest)))
    (hp : c.pastEnd = false) (hcn : NameOK cn) (hty : TypeOK ty) (hws : ∀ q ∈ ws, q.ok props) :
    ∃ c', tableColumn props c = .ok (colOfSettings cn ty (foldColSettings (ws.map Flag.setting) none)) c'
      ∧ c'.rest = rest ∧ c'.pastEnd = false := by
  cases ws with
  | nil => exact tableColumn_ok props c cn ty rest (by rw [hc]; simp [flagsText, colLine]) hp hcn hty
  | cons w ws =>
    exact (run_tableColumn props cn ty ' ' ('[' :: (w.text ++ (moreFlags ws ++ ']' :: '\n' :: rest))) 1 '[' _ rest
      (some (foldColSettings ((w :: ws).map Flag.setting) none)) hcn hty rfl (by decide) (by decide)
      (.opt_some ((run_settings props w ws rest (hws w (by simp)) fun q hq => hws q (by simp [hq])).pre
        (AtWs.of_at 1 (by decide))))).at c (by rw [hc]; simp [flagsText]) hp

theorem tableColumn_settings (props : Bool) (c : Cur) (cn ty : Str) (w : Flag) (ws : List Flag) (rest : Str)
    (hc : c.rest = ' ' :: ' ' :: ' ' :: ' ' :: '"' :: (cn ++ '"' :: ' ' :: (ty ++ flagsText (w :: ws) ++ '\n' :: rest)))
    (hp : c.pastEnd = false) (hcn : NameOK cn) (hty : TypeOK ty) (hw : w.ok props) (hws : ∀ q ∈ ws, q.ok props) :
    ∃ c', tableColumn props c = .ok (colOfSettings cn ty (foldColSettings ((w :: ws).map Flag.setting) none)) c'
      ∧ c'.rest = rest ∧ c'.pastEnd = false :=
  tableColumn_flags props c cn ty (w :: ws) rest hc hp hcn hty (List.forall_mem_cons.mpr ⟨hw, hws⟩)

structure FCol where
  name : Str
  type : Str
  pk : Bool := false
  increment : Bool := false
  unique : Bool := false
  notNull : Bool := false
  /-- the empty text means: no note -/
  note : Str := []
  props : List (Str × Str) := []
  /-- the integer default, as decimal digits; empty: none -/
  dflt : Str := []
  irefs : List IRefT := []
  /-- the string default; empty: none (at most one of `dflt`, `dstr`, `dexpr` is set) -/
  dstr : Str := []
  /-- the expression default (written between backticks); empty: none -/
  dexpr : Str := []

def FCol.base (s : FCol) : List Flag :=
  (if s.pk then [Flag.pk] else []) ++ (if s.increment then [Flag.increment] else [])
    ++ (if s.dflt.isEmpty then [] else [Flag.defInt s.dflt])
    ++ (if s.dstr.isEmpty then [] else [Flag.defStr s.dstr])
    ++ (if s.dexpr.isEmpty then [] else [Flag.defExpr s.dexpr])
    ++ (if s.unique then [Flag.unique] else []) ++ (if s.notNull then [Flag.notNull] else [])
    ++ (if s.note.isEmpty then [] else [Flag.note s.note])

def propFlags (ps : List (Str × Str)) : List Flag := ps.map fun kv => Flag.prop kv.1 kv.2
def refFlags (rs : List IRefT) : List Flag := rs.map fun r => Flag.ref r.kind r.tn r.cn

def FCol.flags (s : FCol) : List Flag := refFlags s.irefs ++ (s.base ++ propFlags s.props)

def FCol.str (s : FCol) : Str := '"' :: (s.name ++ '"' :: ' ' :: (s.type ++ flagsText s.flags))

def FCol.bp (s : FCol) : Bp.ColBp :=
  { name := s.name, type := s.type, unique := s.unique, notNull := s.notNull, pk := s.pk, autoinc := s.increment,
    note := if s.note.isEmpty then none else some s.note,
    props := if s.props.isEmpty then none else some s.props,
    default := if s.dflt.isEmpty then (if s.dstr.isEmpty then (if s.dexpr.isEmpty then none else some (.expr s.dexpr)) else some (.str s.dstr))
      else some (.int s.dflt),
    refs := s.irefs.map IRefT.bp }

def FCol.col (s : FCol) : Column :=
  { name := s.name, type := .plain s.type, unique := s.unique, notNull := s.notNull, pk := s.pk, autoinc := s.increment,
    note := s.note, props := s.props,
    default := if s.dflt.isEmpty then (if s.dstr.isEmpty then (if s.dexpr.isEmpty then none else some (.expr s.dexpr)) else some (.str s.dstr))
      else some (.int s.dflt) }

structure FCol.ok (ap : Bool) (s : FCol) : Prop where
  name : NameOK s.name
  type : TypeOK s.type
  notePlain : Plain s.note
  noteTriple : hasTriple s.note = false
  noteNorm : norm s.note = s.note
  propsOn : s.props = [] ∨ ap = true
  keys : ∀ kv ∈ s.props, KeyOK kv.1
  values : ∀ kv ∈ s.props, Plain kv.2 ∧ hasTriple kv.2 = false
  distinct : s.props.Pairwise (fun a b => a.1 ≠ b.1)
  digits : s.dflt = [] ∨ DigitsOK s.dflt
  dstrOK : s.dstr = [] ∨ DStrOK s.dstr
  dexprOK : s.dexpr = [] ∨ DExprOK s.dexpr
  oneDefault : (s.dstr = [] ∧ s.dexpr = []) ∨ (s.dflt = [] ∧ s.dexpr = []) ∨ (s.dflt = [] ∧ s.dstr = [])
  refNames : ∀ r ∈ s.irefs, NameOK r.tn ∧ NameOK r.cn

theorem filterMap_none_append {α β} (A : List α) (f : α → Option β) (ps : List β) (h : ∀ x ∈ A, f x = none) :
    A.filterMap f ++ ps = ps := by
  rw [List.filterMap_eq_nil_iff.mpr h]; rfl

/-! a slot `if c then [x] else []` of a list put together from slots, under `∈`, `map`, `foldl`, `any`, `filterMap` -/

theorem mem_ite1 {α} {c : Prop} [Decidable c] {x y : α} : y ∈ (if c then [x] else []) ↔ c ∧ y = x := by
  split <;> simp [*]
theorem mem_ite0 {α} {c : Prop} [Decidable c] {x y : α} : y ∈ (if c then [] else [x]) ↔ ¬c ∧ y = x := by
  split <;> simp [*]
theorem map_ite1 {α β} (c : Prop) [Decidable c] (x : α) (f : α → β) : (if c then [x] else []).map f = if c then [f x] else [] := by
  split <;> rfl
theorem map_ite0 {α β} (c : Prop) [Decidable c] (x : α) (f : α → β) : (if c then [] else [x]).map f = if c then [] else [f x] := by
  split <;> rfl
theorem foldl_ite1 {α β} (c : Prop) [Decidable c] (x : α) (f : β → α → β) (a : β) : (if c then [x] else []).foldl f a = if c then f a x else a := by
  split <;> rfl
theorem foldl_ite0 {α β} (c : Prop) [Decidable c] (x : α) (f : β → α → β) (a : β) : (if c then [] else [x]).foldl f a = if c then a else f a x := by
  split <;> rfl
theorem any_ite1 {α} (c : Prop) [Decidable c] (x : α) (p : α → Bool) : (if c then [x] else []).any p = (decide c && p x) := by
  split <;> simp [*]
theorem any_ite0 {α} (c : Prop) [Decidable c] (x : α) (p : α → Bool) : (if c then [] else [x]).any p = (!decide c && p x) := by
  split <;> simp [*]
theorem filterMap_ite1 {α β} (c : Prop) [Decidable c] (x : α) (f : α → Option β) : (if c then [x] else []).filterMap f = if c then (f x).toList else [] := by
  split <;> simp [List.filterMap_cons]; cases f x <;> rfl
theorem filterMap_ite0 {α β} (c : Prop) [Decidable c] (x : α) (f : α → Option β) : (if c then [] else [x]).filterMap f = if c then [] else (f x).toList := by
  split <;> simp [List.filterMap_cons]; cases f x <;> rfl

theorem FCol.flags_ok (ap : Bool) (s : FCol) (hok : s.ok ap) : ∀ w ∈ s.flags, w.ok ap := by
  intro w hw
  simp only [FCol.flags, FCol.base, propFlags, refFlags, List.mem_append, List.mem_map, mem_ite1, mem_ite0,
    List.isEmpty_iff] at hw
  rcases hw with ⟨r, hr, rfl⟩ | (((((((⟨_, rfl⟩ | ⟨_, rfl⟩) | ⟨h, rfl⟩) | ⟨h, rfl⟩) | ⟨h, rfl⟩) | ⟨_, rfl⟩) | ⟨_, rfl⟩)
    | ⟨_, rfl⟩) | ⟨kv, hkv, rfl⟩
  · exact hok.refNames r hr
  · trivial
  · trivial
  · exact hok.digits.resolve_left h
  · exact hok.dstrOK.resolve_left h
  · exact hok.dexprOK.resolve_left h
  · trivial
  · trivial
  · exact ⟨hok.notePlain, hok.noteTriple⟩
  · exact ⟨hok.propsOn.resolve_left (List.ne_nil_of_mem hkv), hok.keys kv hkv, hok.values kv hkv⟩

def propItems (ps : List (Str × Str)) : List ColSetting := ps.map fun kv => ColSetting.prop kv.1 kv.2

def refItems (rs : List IRefT) : List ColSetting := rs.map fun r => ColSetting.ref r.bp

theorem map_setting_flags (s : FCol) :
    s.flags.map Flag.setting = refItems s.irefs ++ (s.base.map Flag.setting ++ propItems s.props) := by
  simp [FCol.flags, propFlags, propItems, refFlags, refItems, Flag.setting, Function.comp_def]

theorem fold_prefix_refs (rs : List IRefT) (B : List ColSetting) (cm : Option Str) :
    foldColSettings (refItems rs ++ B) cm
      = { foldColSettings B cm with refs := rs.map IRefT.bp ++ (foldColSettings B cm).refs } := by
  induction rs with
  | nil => rfl
  | cons r rs ih =>
    -- a reference in front leaves every fold of `parse_column_settings` where it starts, and is the first of `refs`
    have : foldColSettings (refItems (r :: rs) ++ B) cm
        = { foldColSettings (refItems rs ++ B) cm with refs := r.bp :: (foldColSettings (refItems rs ++ B) cm).refs } := rfl
    rw [this, ih]; rfl

theorem fold_append_props (A : List ColSetting) (ps : List (Str × Str))
    (hA : ∀ x ∈ A, ∀ k v, x ≠ ColSetting.prop k v) :
    foldColSettings (A ++ propItems ps) none
      = { foldColSettings A none with props := if ps.isEmpty then none else some (Bp.dictOf ps) } := by
  unfold foldColSettings
  simp only [propItems, List.foldl_append, List.any_append, List.filterMap_append]
  rw [foldl_map_skip _ _ _ (fun _ _ => rfl), foldl_map_skip _ _ _ (fun _ _ => rfl), foldl_map_skip _ _ _ (fun _ _ => rfl),
    any_map_false _ _ _ (fun _ => rfl), any_map_false _ _ _ (fun _ => rfl), any_map_false _ _ _ (fun _ => rfl),
    filterMap_map_some _ (fun kv : Str × Str => ColSetting.prop kv.1 kv.2) _ id (fun _ => rfl),
    filterMap_map_none _ (fun kv : Str × Str => ColSetting.prop kv.1 kv.2) _ (fun _ => rfl), List.map_id,
    filterMap_none_append A _ ps (fun x hx => by
      cases x with
      | prop k v => exact absurd rfl (hA _ hx k v)
      | _ => rfl)]
  simp

theorem FCol.base_no_prop (s : FCol) : ∀ x ∈ s.base.map Flag.setting, ∀ k v, x ≠ ColSetting.prop k v := by
  intro x hx k v h
  obtain ⟨w, hw, rfl⟩ := List.mem_map.mp hx
  simp only [FCol.base, List.mem_append, mem_ite1, mem_ite0] at hw
  rcases hw with ((((((⟨_, rfl⟩ | ⟨_, rfl⟩) | ⟨_, rfl⟩) | ⟨_, rfl⟩) | ⟨_, rfl⟩) | ⟨_, rfl⟩) | ⟨_, rfl⟩) | ⟨_, rfl⟩ <;> cases h

/-- `parse_column_settings` keeps the LAST default written, hence `dexpr` before `dstr` before `dflt`; `FCol.bp` asks them in
    the other order: the two agree under `oneDefault` (`FCol.fold_bp`) -/
theorem base_fold (s : FCol) :
    foldColSettings (s.base.map Flag.setting) none
      = { notNull := s.notNull, pk := s.pk, unique := s.unique, autoinc := s.increment,
          note := if s.note.isEmpty then none else some s.note,
          default := if s.dexpr.isEmpty then (if s.dstr.isEmpty then (if s.dflt.isEmpty then none else some (.int s.dflt)) else some (.str s.dstr))
                     else some (.expr s.dexpr),
          refs := [], comment := none, props := none } := by
  unfold foldColSettings FCol.base
  -- every fold goes through the slots one by one; a slot that a fold does not look at leaves `if c then a else a`
  simp only [List.map_append, map_ite1, map_ite0, List.foldl_append, foldl_ite1, foldl_ite0, List.any_append, any_ite1, any_ite0,
    List.filterMap_append, filterMap_ite1, filterMap_ite0, Flag.setting, ite_self, Option.toList_none, List.append_nil,
    List.isEmpty_nil, ↓reduceIte, Bool.and_true, Bool.and_false, Bool.or_false, Bool.false_or, Bool.decide_eq_true]
  -- `not null` alone is kept as the last value given and read with `getD false`: `(if b then some true else none).getD false`
  cases s.notNull <;> rfl

theorem FCol.base_refs (s : FCol) : (foldColSettings (s.base.map Flag.setting) none).refs = [] := by
  rw [base_fold]

theorem FCol.fold_bp (s : FCol) (hd : s.props.Pairwise (fun a b => a.1 ≠ b.1))
    (hone : (s.dstr = [] ∧ s.dexpr = []) ∨ (s.dflt = [] ∧ s.dexpr = []) ∨ (s.dflt = [] ∧ s.dstr = [])) :
    colOfSettings s.name s.type (foldColSettings (s.flags.map Flag.setting) none) = s.bp := by
  rw [map_setting_flags, fold_prefix_refs, fold_append_props _ _ (FCol.base_no_prop s), base_fold]
  have hdict := dictOf_distinct s.props hd
  simp only [colOfSettings, FCol.bp, hdict, List.append_nil]
  rcases hone with ⟨h1, h2⟩ | ⟨h1, h2⟩ | ⟨h1, h2⟩ <;> simp [h1, h2, joinBefore]

theorem FCol.parse (props : Bool) (c : Cur) (s : FCol) (rest : Str)
    (hc : c.rest = ' ' :: ' ' :: ' ' :: ' ' :: (s.str ++ '\n' :: rest)) (hp : c.pastEnd = false) (hok : s.ok props) :
    ∃ c', tableColumn props c = .ok s.bp c' ∧ c'.rest = rest ∧ c'.pastEnd = false := by
  rw [← FCol.fold_bp s hok.distinct hok.oneDefault]
  exact tableColumn_flags props c s.name s.type s.flags rest (by rw [hc]; simp [FCol.str]) hp hok.name hok.type
    (FCol.flags_ok props s hok)

theorem Flag.text_plain (ap : Bool) (w : Flag) (hw : w.ok ap) : Plain w.text := by
  cases w with
  | pk | increment | unique | notNull => decide
  | note t => exact Plain.append (a := ['n', 'o', 't', 'e', ':', ' ']) (by decide) hw.1.quoted
  | defStr t => exact Plain.append (a := ['d', 'e', 'f', 'a', 'u', 'l', 't', ':', ' ']) (by decide) hw.1.quoted
  | defExpr e =>
    exact Plain.append (a := ['d', 'e', 'f', 'a', 'u', 'l', 't', ':', ' ', '`']) (by decide)
      (Plain.append (fun c hc => (hw.2 c hc).2) (by decide))
  | defInt d =>
    exact Plain.append (a := ['d', 'e', 'f', 'a', 'u', 'l', 't', ':', ' ']) (by decide)
      (plain_of_nameChars (List.all_eq_true.mpr fun c hc => by
        have := List.all_eq_true.mp hw.2.1 c hc; simp [isNameChar, isAlnum, this]))
  | prop k v => exact (plain_of_nameChars hw.2.1.2.1).append (.cons (by decide) (.cons (by decide) hw.2.2.1.quoted))
  | ref k tn cn =>
    have hk : Plain k.sym := by cases k <;> decide
    have : (Flag.ref k tn cn).text = ['r', 'e', 'f', ':', ' '] ++ (k.sym ++ ([' ', '"'] ++ (tn ++ (['"', '.', '"'] ++ (cn ++ ['"']))))) := by
      simp [Flag.text, IRefT.text]
    rw [this]
    exact Plain.append (by decide) (hk.append (Plain.append (by decide) (hw.1.plain.append (Plain.append (by decide)
      (hw.2.plain.append (by decide))))))

theorem moreFlags_plain (ap : Bool) (ws : List Flag) (hws : ∀ w ∈ ws, w.ok ap) : Plain (moreFlags ws) := by
  induction ws with
  | nil => exact .nil
  | cons w r ih =>
    exact .cons (by decide) (.cons (by decide) ((Flag.text_plain ap w (hws w (by simp))).append
      (ih fun q hq => hws q (by simp [hq]))))

theorem flagsText_plain (ap : Bool) (ws : List Flag) (hws : ∀ w ∈ ws, w.ok ap) : Plain (flagsText ws) := by
  cases ws with
  | nil => exact .nil
  | cons w r =>
    exact .cons (by decide) (.cons (by decide) (((Flag.text_plain ap w (hws w (by simp))).append
      (moreFlags_plain ap r fun q hq => hws q (by simp [hq]))).append (by decide)))

theorem FCol.str_plain (ap : Bool) (s : FCol) (hok : s.ok ap) : Plain s.str :=
  .cons (by decide) (hok.name.plain.append (.cons (by decide) (.cons (by decide)
    ((plain_of_nameChars hok.type.2).append (flagsText_plain ap s.flags (FCol.flags_ok ap s hok))))))

theorem joinWith_flags (w : Flag) (ws : List Flag) :
    joinWith [',', ' '] ((w :: ws).map Flag.text) = w.text ++ moreFlags ws := by
  induction ws generalizing w with
  | nil => simp [joinWith, moreFlags]
  | cons a r ih =>
    have := ih a
    simp only [List.map_cons] at this ⊢
    rw [joinWith.eq_3 _ _ _ (by simp), this]
    simp [moreFlags]

theorem flagsText_eq (ws : List Flag) :
    flagsText ws = if (ws.map Flag.text).isEmpty then [] else lit " [" ++ joinWith (lit ", ") (ws.map Flag.text) ++ [']'] := by
  cases ws with
  | nil => rfl
  | cons w r =>
    have := joinWith_flags w r
    simp only [List.map_cons] at this
    simp [flagsText, lit, this]

theorem DigitsOK.head {d : Str} (h : DigitsOK d) : ∃ x xs, d = x :: xs ∧ x ≠ '0' := by
  obtain ⟨hne, _, hhead, _⟩ := h
  cases d with
  | nil => exact absurd rfl hne
  | cons x xs => exact ⟨x, xs, rfl, by intro e; subst e; simp at hhead⟩

theorem stripLeadingZeros_digits (d : Str) (h : DigitsOK d) : stripLeadingZeros d = d := by
  obtain ⟨x, xs, rfl, hx⟩ := h.head
  simp [stripLeadingZeros, List.dropWhile, hx]

theorem truthy_digits (d : Str) (h : DigitsOK d) : (DefaultVal.int d).truthy = true := by
  obtain ⟨x, xs, rfl, hx⟩ := h.head
  simp [DefaultVal.truthy, hx]

theorem noteOption_plain (t : Str) (ht : Plain t) : noteOptionToDbml t = (Flag.note t).text := by
  unfold noteOptionToDbml; rw [containsChar_plain t ht]; rfl

/-- the option list inside `Dbml.renderColumn`, word for word, the texts of the inline references as a parameter
    (`renderColumn_eq` is `rfl`) -/
def colOpts (ap : Bool) (refs : List Str) (c : Column) : List Str :=
  refs
    ++ (if c.pk then [lit "pk"] else [])
    ++ (if c.autoinc then [lit "increment"] else [])
    ++ (match c.default with
        | some d => if d.truthy then [lit "default: " ++ Dbml.defaultToStr d] else []
        | none => [])
    ++ (if c.unique then [lit "unique"] else [])
    ++ (if c.notNull then [lit "not null"] else [])
    ++ (if c.note.isEmpty then [] else [noteOptionToDbml c.note])
    ++ (if ap then c.props.map fun (k, v) => k ++ lit ": " ++ quoteString v else [])

theorem renderColumn_eq (db : Db) (ti ci : Nat) (c : Column) (ty : Str) (refs : List Str)
    (hty : Sql.typeText db c = .ok ty)
    (hrefs : (Dbml.inlineRefsOfColumn db ti ci).mapM (Dbml.renderInlineRef db) = .ok refs) :
    Dbml.renderColumn db ti ci c = .ok (Dbml.optComment c.comment ++ '"' :: c.name ++ lit "\" " ++ ty ++
      (if (colOpts db.allowProps refs c).isEmpty then []
       else lit " [" ++ joinWith (lit ", ") (colOpts db.allowProps refs c) ++ [']'])) := by
  unfold Dbml.renderColumn
  simp only [hty, hrefs, bind, Except.bind, pure, Except.pure]
  rfl


theorem defaultToStr_dstr (t : Str) (h : DStrOK t) : Dbml.defaultToStr (.str t) = '\'' :: prepareTextForDbml t ++ ['\''] := by
  obtain ⟨_, _, _, h1, h2, h3⟩ := h
  simp only [Dbml.defaultToStr, h1, h2, h3, decide_false, Bool.or_false, Bool.false_eq_true, ↓reduceIte]

theorem default_opt (di ds de : Str) (hi : di = [] ∨ DigitsOK di) (hs : ds = [] ∨ DStrOK ds)
    (hone : (ds = [] ∧ de = []) ∨ (di = [] ∧ de = []) ∨ (di = [] ∧ ds = [])) :
    (match (if di.isEmpty then (if ds.isEmpty then (if de.isEmpty then none else some (DefaultVal.expr de)) else some (.str ds))
            else some (.int di)) with
     | some d => if d.truthy then [lit "default: " ++ Dbml.defaultToStr d] else []
     | none => [])
    = (if di.isEmpty then [] else [(Flag.defInt di).text]) ++ (if ds.isEmpty then [] else [(Flag.defStr ds).text])
        ++ (if de.isEmpty then [] else [(Flag.defExpr de).text]) := by
  rcases hone with ⟨rfl, rfl⟩ | ⟨rfl, rfl⟩ | ⟨rfl, rfl⟩
  · cases di with
    | nil => rfl
    | cons x xs =>
      have ht := truthy_digits (x :: xs) (hi.resolve_left (List.cons_ne_nil x xs))
      simp only [List.isEmpty_cons, Bool.false_eq_true, ↓reduceIte, ht]
      rfl
  · cases ds with
    | nil => rfl
    | cons x xs =>
      have hq := defaultToStr_dstr (x :: xs) (hs.resolve_left (List.cons_ne_nil x xs))
      simp only [List.isEmpty_cons, List.isEmpty_nil, Bool.false_eq_true, ↓reduceIte, hq]
      rfl
  · cases de with
    | nil => rfl
    | cons x xs => rfl

theorem props_opt (ap : Bool) (ps : List (Str × Str)) (hon : ps = [] ∨ ap = true) (hv : ∀ kv ∈ ps, Plain kv.2) :
    (if ap then ps.map fun (k, v) => k ++ lit ": " ++ quoteString v else []) = (propFlags ps).map Flag.text := by
  rcases hon with rfl | rfl
  · cases ap <;> rfl
  · rw [propFlags, List.map_map]
    exact List.map_congr_left fun kv hkv => by
      show kv.1 ++ lit ": " ++ quoteString kv.2 = _
      rw [quoteString_plain kv.2 (hv kv hkv)]; simp [Flag.text, lit]

theorem FCol.colOpts_eq (ap : Bool) (s : FCol) (hok : s.ok ap) :
    colOpts ap (s.irefs.map IRefT.text) s.col = s.flags.map Flag.text := by
  have hr : (refFlags s.irefs).map Flag.text = s.irefs.map IRefT.text := by rw [refFlags, List.map_map]; rfl
  unfold colOpts FCol.flags FCol.base
  simp only [FCol.col, List.map_append, map_ite1, map_ite0]
  rw [hr, props_opt ap s.props hok.propsOn (fun kv h => (hok.values kv h).1),
    default_opt s.dflt s.dstr s.dexpr hok.digits hok.dstrOK hok.oneDefault, noteOption_plain s.note hok.notePlain]
  simp only [List.append_assoc]
  rfl

theorem FCol.render (db : Db) (ti ci : Nat) (s : FCol) (hok : s.ok db.allowProps)
    (hinl : (Dbml.inlineRefsOfColumn db ti ci).mapM (Dbml.renderInlineRef db) = .ok (s.irefs.map IRefT.text)) :
    Dbml.renderColumn db ti ci s.col = .ok s.str := by
  rw [renderColumn_eq db ti ci s.col s.type _ rfl hinl, FCol.colOpts_eq _ s hok, ← flagsText_eq, FCol.str]
  simp [FCol.col, Dbml.optComment, lit]

/-- an integer default is already in `str(int(…))` form (`DigitsOK`), the note already normalised (`noteNorm`) -/
theorem FCol.build (ap : Bool) (enums : List Enum) (s : FCol) (hok : s.ok ap)
    (hres : resolveTypePure enums s.bp.type = .plain s.bp.type) : buildColumn enums s.bp = .ok s.col := by
  have hd : buildDefault s.bp.default = .ok s.col.default := by
    show buildDefault (if s.dflt.isEmpty then _ else some (.int s.dflt)) = .ok (if s.dflt.isEmpty then _ else some (.int s.dflt))
    split
    · split
      · split <;> rfl
      · rfl
    · rename_i h
      rw [buildDefault, stripLeadingZeros_digits _ (hok.digits.resolve_left (by simpa using h))]; rfl
  have hn : buildNote s.bp.note = .ok s.note := buildNote_noteOpt s.note hok.noteNorm
  have hp : s.bp.props.getD [] = s.props := by
    show (if s.props.isEmpty then none else some s.props).getD [] = _
    split
    · rename_i h; rw [List.isEmpty_iff.mp h]; rfl
    · rfl
  unfold buildColumn
  simp only [hd, hn, hp, resolveType, hres, bind, Except.bind, pure, Except.pure]
  rfl

theorem FCol.noTab (ap : Bool) (s : FCol) (hok : s.ok ap) : ∀ ch ∈ s.str, ch ≠ '\t' :=
  fun ch hch => (FCol.str_plain ap s hok ch hch).2

theorem FCol.lineOK (ap : Bool) (s : FCol) (hok : s.ok ap) : ∀ ch ∈ s.str, isLineBreak ch = false :=
  fun ch hch => (FCol.str_plain ap s hok ch hch).1

def flagForm : ColForm FCol where
  str := FCol.str
  bp := FCol.bp
  col := FCol.col
  ok := FCol.ok
  quoted := fun s => ⟨_, rfl⟩
  parse := FCol.parse
  noTab := FCol.noTab
  lineOK := FCol.lineOK
  irefs := FCol.irefs
  bp_refs := fun _ => rfl
  build := FCol.build
  render := fun db ti ci s hok hinl => FCol.render db ti ci s hok hinl

/-- **C02 (and C15), one table whose columns carry settings, end to end**: any positive number of columns, each with a
    quoted name, a one-word type, any subset of `pk`, `increment`, `unique`, `not null`, at most one default (integer,
    one-line string, backtick expression), a one-line note and - properties switch on - any number of properties (keys
    and values exact, order kept), no inline reference (`hno`), is rendered to DBML and parsed back to exactly the same
    database. -/
theorem flags_table_roundtrip_partial (ap : Bool) (tn : Str) (cs : List FCol)
    (htn : NameOK tn) (hcs : ∀ s ∈ cs, s.ok ap) (hne : cs ≠ []) (hno : ∀ s ∈ cs, s.irefs = []) :
    ∃ text, Dbml.renderDb { tables := [{ name := tn, columns := cs.map FCol.col }], allowProps := ap } = .ok text
      ∧ Build.parse ap text
          = .ok { tables := [{ name := tn, columns := cs.map FCol.col }], allowProps := ap } :=
  form_roundtrip flagForm ap tn cs htn hcs hne hno

theorem keyOK_of_first (x : Char) (xs : Str) (hall : (x :: xs).all isNameChar = true)
    (hx : pyUpper1 x ∉ [pyUpper1 'n', pyUpper1 'p', pyUpper1 'u', pyUpper1 'i', pyUpper1 'r', pyUpper1 'd']) :
    KeyOK (x :: xs) := by
  refine ⟨by simp, hall, ?_⟩
  intro kw hkw r
  simp only [List.mem_cons, List.mem_nil_iff, or_false, not_or] at hx
  simp only [settingWords, List.mem_cons, List.mem_nil_iff, or_false] at hkw
  rcases hkw with rfl | rfl | rfl | rfl | rfl | rfl | rfl | rfl | rfl <;>
    simp [startsWithCaseless, Ne.symm hx.1, Ne.symm hx.2.1, Ne.symm hx.2.2.1, Ne.symm hx.2.2.2.1, Ne.symm hx.2.2.2.2.1,
      Ne.symm hx.2.2.2.2.2]

/-- non-vacuity of `FCol.ok` (switch on): flags, a note and two properties, an integer default -/
example : ∀ s ∈ [({ name := lit "id", type := lit "int", pk := true, increment := true } : FCol),
      { name := lit "e mail", type := lit "varchar", unique := true, notNull := true, note := lit "it's the login",
        props := [(lit "color", lit "red"), (lit "weight", lit "1 kg")] },
      { name := lit "age", type := lit "int", dflt := lit "18" }], s.ok true := by
  repeat rw [lit_eq rfl]
  intro s hs
  simp at hs
  rcases hs with rfl | rfl | rfl
  · exact ⟨fun c hc => by revert c; decide, ⟨by decide, by decide⟩, fun c hc => by revert c; decide, by decide, by decide,
      Or.inl rfl, (by intro kv h; cases h), (by intro kv h; cases h), by simp, Or.inl rfl, Or.inl rfl, Or.inl rfl, Or.inl ⟨rfl, rfl⟩, (by intro r h; cases h)⟩
  · refine ⟨fun c hc => by revert c; decide, ⟨by decide, by decide⟩, fun c hc => by revert c; decide, by decide, by decide,
      Or.inr rfl, ?_, ?_, by decide, Or.inl rfl, Or.inl rfl, Or.inl rfl, Or.inl ⟨rfl, rfl⟩, (by intro r h; cases h)⟩
    · intro kv h
      simp at h
      rcases h with rfl | rfl
      · exact keyOK_of_first 'c' _ (by decide) (by decide)
      · exact keyOK_of_first 'w' _ (by decide) (by decide)
    · intro kv h
      simp at h
      rcases h with rfl | rfl <;> exact ⟨fun c hc => by revert c; decide, by decide⟩
  · exact ⟨fun c hc => by revert c; decide, ⟨by decide, by decide⟩, fun c hc => by revert c; decide, by decide, by decide,
      Or.inl rfl, (by intro kv h; cases h), (by intro kv h; cases h), by simp, Or.inr ⟨by decide, by decide, by decide, by decide⟩, Or.inl rfl, Or.inl rfl, Or.inl ⟨rfl, rfl⟩, (by intro r h; cases h)⟩

example : flagForm.tableText (lit "t") [{ name := lit "id", type := lit "int", pk := true, increment := true, dflt := lit "7" },
      { name := lit "m", type := lit "text", unique := true, notNull := true, note := lit "it's",
        props := [(lit "color", lit "red")] }]
    = lit "Table \"t\" {\n    \"id\" int [pk, increment, default: 7]\n    \"m\" text [unique, not null, note: 'it\\'s', color: 'red']\n}" := by
  repeat rw [lit_eq rfl]
  decide +kernel

/-- non-vacuity of the string default: `default: 'it\\'s new'` -/
example : ({ name := lit "st", type := lit "text", dstr := lit "it's new", notNull := true } : FCol).ok false
    ∧ ({ name := lit "st", type := lit "text", dstr := lit "it's new", notNull := true } : FCol).str
        = lit "\"st\" text [default: 'it\\'s new', not null]" := by
  repeat rw [lit_eq rfl]
  refine ⟨⟨fun c hc => by revert c; decide, ⟨by decide, by decide⟩, fun c hc => by revert c; decide, by decide, by decide,
    Or.inl rfl, (by intro kv h; cases h), (by intro kv h; cases h), by simp, Or.inl rfl,
    Or.inr ⟨fun c hc => by revert c; decide, by decide, by decide, by decide, by decide, by decide⟩, Or.inl rfl,
    Or.inr (Or.inl ⟨rfl, rfl⟩), (by intro r h; cases h)⟩, by decide⟩

/-- non-vacuity of the expression default: `` default: `now()` `` -/
example : ({ name := lit "at", type := lit "timestamp", dexpr := lit "now()" } : FCol).ok false
    ∧ ({ name := lit "at", type := lit "timestamp", dexpr := lit "now()" } : FCol).str = lit "\"at\" timestamp [default: `now()`]" := by
  repeat rw [lit_eq rfl]
  refine ⟨⟨fun c hc => by revert c; decide, ⟨by decide, by decide⟩, fun c hc => by revert c; decide, by decide, by decide,
    Or.inl rfl, (by intro kv h; cases h), (by intro kv h; cases h), by simp, Or.inl rfl, Or.inl rfl,
    Or.inr ⟨by decide, fun c hc => by revert c; decide⟩, Or.inr (Or.inr ⟨rfl, rfl⟩), (by intro r h; cases h)⟩, by decide⟩

end C02
end PyDBML
