/-
C03 — the reader of the DDL, continued: `COMMENT ON` statements.  They address the table by its bare name: that the
schema is dropped is the recorded finding KF-C03-comment-schema; the theorems say what the text states.
(Namespace C04: there SqlRead.lean has `readCommentOn`.)
-/
import PyDBMLModel
import PyDBMLProofs.Props.C03Base
namespace PyDBML
namespace C04
open Sql C03

theorem readCommentTail_ok (ent : Str) (path : List Str) (x : Str) :
    readCommentTail ent path (lit " IS '" ++ (x ++ lit "';")) = some ⟨ent, path, x⟩ := by
  simp only [readCommentTail, stripKw_append, stripSuffix_append]
  rfl

/-- the reader on `Sql.commentOn` (which `renderTableWith` appends for a table note): the name, and the text with
    single quotes neutralised (`prepare_text_for_sql`); no table or renderer in the statement -/
theorem read_render_comment_table (name text : Str) (hq : '"' ∉ name) :
    readCommentOn (commentOn (lit "TABLE") name text) = some ⟨lit "TABLE", [name], prepareTextForSql text⟩ := by
  rw [show commentOn (lit "TABLE") name text
      = lit "COMMENT ON " ++ (lit "TABLE" ++ ' ' :: '"' :: (name ++ '"' :: (lit " IS '" ++ (prepareTextForSql text ++ lit "';")))) by
    rw [commentOn, lit_eq (s := " \"") rfl, lit_eq (s := "\" IS '") rfl, lit_eq (s := " IS '") rfl]; simp]
  simp only [readCommentOn, stripKw_append, span_until (c := ' ') (a := lit "TABLE") (by rw [lit_eq rfl]; decide),
    readQuoted_ok name _ hq]
  exact readCommentTail_ok _ _ _

/-- the statement for a column note: the text of the lambda inside `Sql.renderTableWith` without its leading empty
    line, spelt again; no lemma ties the two -/
def commentColumnLine (t c text : Str) : Str :=
  lit "COMMENT ON COLUMN \"" ++ t ++ lit "\".\"" ++ c ++ lit "\" IS '" ++ prepareTextForSql text ++ lit "';"

/-- the reader on `commentColumnLine`: table, column, text; the renderer is not in the statement -/
theorem read_render_comment_column (t c text : Str) (ht : '"' ∉ t) (hc : '"' ∉ c) :
    readCommentOn (commentColumnLine t c text) = some ⟨lit "COLUMN", [t, c], prepareTextForSql text⟩ := by
  rw [show commentColumnLine t c text
      = lit "COMMENT ON " ++ (lit "COLUMN" ++ ' ' :: '"' :: (t ++ '"' :: ('.' :: '"' :: (c ++ '"' :: (lit " IS '" ++ (prepareTextForSql text ++ lit "';")))))) by
    rw [commentColumnLine, lit_eq (s := "COMMENT ON COLUMN \"") rfl, lit_eq (s := "\".\"") rfl, lit_eq (s := "\" IS '") rfl,
      lit_eq (s := "COMMENT ON ") rfl, lit_eq (s := "COLUMN") rfl, lit_eq (s := " IS '") rfl]; simp]
  simp only [readCommentOn, stripKw_append, span_until (c := ' ') (a := lit "COLUMN") (by rw [lit_eq rfl]; decide),
    readQuoted_ok t _ ht,
    readQuoted_ok c _ hc]
  exact readCommentTail_ok _ _ _

example : readCommentOn (lit "COMMENT ON COLUMN \"t\".\"c\" IS 'it\"s; a note';") = some ⟨lit "COLUMN", [lit "t", lit "c"], lit "it\"s; a note"⟩
    ∧ readCommentOn (lit "COMMENT ON TABLE \"t\" IS '';") = some ⟨lit "TABLE", [lit "t"], []⟩ := by
  repeat rw [lit_eq rfl]
  decide +kernel

end C04
end PyDBML
