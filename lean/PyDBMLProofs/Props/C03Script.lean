/-
C03/C04 — the reader of the DDL, continued: enums (`read_render_enum`) and whole scripts of enums, tables and
standalone references (`read_render_script_all`).
-/
import PyDBMLModel
import PyDBMLProofs.Props.C03Read
import PyDBMLProofs.Props.C04Read
namespace PyDBML
namespace C03
open Sql

/-- the item lines `render_enum` writes -/
def enumItemLines : List Str → List Str
  | [] => []
  | [n] => [' ' :: ' ' :: '\'' :: (n ++ ['\''])]
  | n :: n2 :: ns => (' ' :: ' ' :: '\'' :: (n ++ ['\'', ','])) :: enumItemLines (n2 :: ns)

def EnumDesc.lines (d : EnumDesc) : List Str :=
  (lit "CREATE TYPE " ++ d.qname ++ lit " AS ENUM (") :: (enumItemLines d.items ++ [lit ");"])

theorem enumItemLines_ne : ∀ (ns : List Str), ns ≠ [] → enumItemLines ns ≠ []
  | [], h => absurd rfl h
  | [_], _ => by simp [enumItemLines]
  | _ :: _ :: _, _ => by simp [enumItemLines]

theorem readEnumItems_ok : ∀ (ns : List Str), ns ≠ [] → readEnumItems (enumItemLines ns) = some ns
  | [], h => absurd rfl h
  | [n], _ => by simp only [enumItemLines, readEnumItems, stripSuffix_append]; rfl
  | n :: n2 :: r, _ => by
    have ih := readEnumItems_ok (n2 :: r) (by simp)
    obtain ⟨x, xs, hx⟩ := List.exists_cons_of_ne_nil (enumItemLines_ne (n2 :: r) (by simp))
    rw [hx] at ih
    simp only [enumItemLines, hx, readEnumItems, stripSuffix_append, ih]

theorem readEnumLines_lines (d : EnumDesc) (h : d.items ≠ []) : readEnumLines d.lines = some d := by
  unfold readEnumLines EnumDesc.lines
  simp only [List.append_assoc, stripKw_append, stripSuffix_append]
  rw [if_pos (by simp), List.dropLast_concat, readEnumItems_ok _ h]
  rfl

theorem forall_mem_enumItemLines {P : Str → Prop} : ∀ (ns : List Str),
    (∀ n ∈ ns, P (' ' :: ' ' :: '\'' :: (n ++ ['\''])) ∧ P (' ' :: ' ' :: '\'' :: (n ++ ['\'', ',']))) → ∀ l ∈ enumItemLines ns, P l
  | [], _ => by simp [enumItemLines]
  | [n], h => by simpa [enumItemLines] using (h n (by simp)).1
  | n :: n2 :: r, h => by
    rw [enumItemLines, List.forall_mem_cons]
    exact ⟨(h n (by simp)).2, forall_mem_enumItemLines (n2 :: r) (fun x hx => h x (by simp [hx]))⟩

theorem EnumDesc.lines_block (d : EnumDesc) (hq : NoBreak d.qname) (hi : ∀ n ∈ d.items, NoBreak n) : Block d.lines := by
  refine ⟨by simp [EnumDesc.lines], ?_⟩
  simp only [EnumDesc.lines, List.forall_mem_cons, List.forall_mem_append]
  refine ⟨line_of_noBreak (by rw [lit_eq rfl]; simp) ?_, forall_mem_enumItemLines _ fun n hn => ⟨line_of_noBreak (by simp) ?_, line_of_noBreak (by simp) ?_⟩,
    close_line, fun _ h => nomatch h⟩
  · exact List.forall_mem_append.mpr ⟨List.forall_mem_append.mpr ⟨by rw [lit_eq rfl]; decide, hq⟩, by rw [lit_eq rfl]; decide⟩
  all_goals
    simp only [NoBreak, List.forall_mem_cons, List.forall_mem_append]
    exact ⟨by decide, by decide, by decide, hi n hn, by decide⟩

/-- the enums the reader theorem covers: at least one item, no comment on the enum or on an item, no line break in a
    name -/
structure EnumReadable (e : Enum) : Prop where
  items : e.items ≠ []
  comment : e.comment = none
  itemPlain : ∀ i ∈ e.items, i.comment = none ∧ NoBreak i.name
  names : NoBreak e.schema ∧ NoBreak e.name

theorem rstripSet_append (p : Char → Bool) (A B : Str) (h : rstripSet p B ≠ []) :
    rstripSet p (A ++ B) = A ++ rstripSet p B := by
  have : (B.reverse.dropWhile p).isEmpty = false := by
    cases hb : B.reverse.dropWhile p with
    | nil => simp [rstripSet, hb] at h
    | cons _ _ => rfl
  simp [rstripSet, List.dropWhile_append, this]

/-- `render_enum` writes a comma behind every item and then `rstrip(',')`s the whole text: that reaches the comma of
    the last item line and no other -/
theorem joinNL_enumItems : ∀ (ns : List Str), ns ≠ [] →
    rstripSet (· = ',') (joinNL (ns.map fun n => ' ' :: ' ' :: '\'' :: (n ++ ['\'', ','])))
      = joinNL (enumItemLines ns)
  | [], h => absurd rfl h
  | [n], _ => by simp [joinNL, enumItemLines, rstripSet]
  | n :: n2 :: r, _ => by
    have ih := joinNL_enumItems (n2 :: r) (by simp)
    have hne := enumItemLines_ne (n2 :: r) (by simp)
    have hB : joinNL (enumItemLines (n2 :: r)) ≠ [] := by
      -- its first line is an item line, and those begin with two blanks
      obtain ⟨x, xs, hx⟩ := List.exists_cons_of_ne_nil hne
      have hx0 : x ≠ [] := forall_mem_enumItemLines (P := (· ≠ [])) _
        (fun _ _ => ⟨List.cons_ne_nil _ _, List.cons_ne_nil _ _⟩) x (hx ▸ List.mem_cons_self)
      simp [hx, joinNL_eq_flatMap, hx0]
    rw [List.map_cons, joinNL_cons _ _ (by simp), show enumItemLines (n :: n2 :: r) = _ :: enumItemLines (n2 :: r) from rfl,
      joinNL_cons _ _ hne, ← List.singleton_append (l := joinNL (List.map _ _)), ← List.append_assoc,
      rstripSet_append _ _ _ (by rw [ih]; exact hB), ih]
    simp

def enumDescOf (e : Enum) : EnumDesc := { qname := qualName e.schema e.name, items := e.items.map (·.name) }

theorem renderEnum_lines (e : Enum) (h : EnumReadable e) : renderEnum e = joinNL (enumDescOf e).lines := by
  have hitems : (e.items.map fun i => indent2 (Sql.optComment i.comment ++ '\'' :: i.name ++ lit "',"))
      = (e.items.map (·.name)).map fun n => ' ' :: ' ' :: '\'' :: (n ++ ['\'', ',']) := by
    rw [List.map_map]
    refine List.map_congr_left fun i hi => ?_
    obtain ⟨hc, hn⟩ := h.itemPlain i hi
    rw [hc, show Sql.optComment none ++ '\'' :: i.name ++ lit "'," = '\'' :: (i.name ++ ['\'', ',']) by
        rw [lit_eq rfl]; simp [Sql.optComment],
      indent2_line '\'' _ (by simp only [NoBreak, List.forall_mem_cons, List.forall_mem_append]; exact ⟨by decide, hn, by decide⟩)
        (by decide)]
    rfl
  have hne : enumItemLines (e.items.map (·.name)) ≠ [] := enumItemLines_ne _ (by simpa using h.items)
  unfold renderEnum
  simp only [hitems]
  rw [joinNL_enumItems _ (by simpa using h.items), h.comment, EnumDesc.lines,
    show (enumDescOf e).items = e.items.map (·.name) from rfl, joinNL_three _ _ _ hne]
  rw [lit_eq (s := " AS ENUM (\n") rfl, lit_eq (s := "\n);") rfl, lit_eq (s := " AS ENUM (") rfl, lit_eq (s := ");") rfl]
  simp [Sql.optComment, enumDescOf]

theorem EnumReadable.desc {e : Enum} (h : EnumReadable e) :
    Block (enumDescOf e).lines ∧ readEnumLines (enumDescOf e).lines = some (enumDescOf e) :=
  ⟨EnumDesc.lines_block _ (qualName_noBreak h.names.1 h.names.2)
      (by simpa [enumDescOf] using fun i hi => (h.itemPlain i hi).2),
    readEnumLines_lines _ (by simpa [enumDescOf] using h.items)⟩

/-- **the reader inverts the enum renderer**: one `CREATE TYPE … AS ENUM` statement, the name as qualified by
    `get_full_name_for_sql`, the items in order, nothing else -/
theorem read_render_enum (e : Enum) (h : EnumReadable e) :
    readEnumLines (splitNL (renderEnum e)) = some (enumDescOf e) := by
  obtain ⟨hB, hr⟩ := h.desc
  rw [renderEnum_lines e h, C14.splitNL_joinNL _ hB.1 (fun l hl => (hB.2 l hl).2), hr]

theorem first_words_apart (X : Str) : (lit "CREATE TYPE ").isPrefixOf (lit "CREATE TABLE " ++ X) = false
    ∧ (lit "CREATE TYPE ").isPrefixOf (lit "ALTER TABLE " ++ X) = false
    ∧ (lit "CREATE TABLE ").isPrefixOf (lit "ALTER TABLE " ++ X) = false := by
  rw [lit_eq (s := "CREATE TYPE ") rfl, lit_eq (s := "CREATE TABLE ") rfl, lit_eq (s := "ALTER TABLE ") rfl]
  exact ⟨rfl, rfl, rfl⟩

theorem readBlock_createType {l : Str} (rest : List Str) (h : lit "CREATE TYPE " <+: l) :
    readBlock (l :: rest) = (readEnumLines (l :: rest)).map Stmt.enum := by
  simp only [readBlock, List.isPrefixOf_iff_prefix.mpr h, ↓reduceIte]

theorem readBlock_createTable {l : Str} (rest : List Str) (h : lit "CREATE TABLE " <+: l) :
    readBlock (l :: rest) = (readTableLines (l :: rest)).map Stmt.table := by
  obtain ⟨X, rfl⟩ := h
  simp only [readBlock, (first_words_apart X).1, List.isPrefixOf_iff_prefix.mpr (List.prefix_append _ _), Bool.false_eq_true, ↓reduceIte]

theorem readBlock_alterTable {l : Str} (h : lit "ALTER TABLE " <+: l) : readBlock [l] = (C04.readFk l).map Stmt.fk := by
  obtain ⟨X, rfl⟩ := h
  simp only [readBlock, (first_words_apart X).2.1, (first_words_apart X).2.2, List.isPrefixOf_iff_prefix.mpr (List.prefix_append _ _), Bool.false_eq_true, ↓reduceIte, and_self]

/-- the table a standalone reference alters / references -/
def stOf (db : Db) (r : Ref) : Table := (db.tables[(refSides r).1.1]?).getD default
def rtOf (db : Db) (r : Ref) : Table := (db.tables[(refSides r).2.1]?).getD default

open C04 in
/-- the standalone references the FOREIGN KEY reader covers: not many-to-many, between existing columns of existing
    tables (at least one a side), no comment, no double quote in a name, the statement is one line (`oneLine`: asked
    of the rendered statement, not of the model's fields; no lemma derives it from them) -/
structure FkReadable (db : Db) (r : Ref) : Prop where
  kind : r.kind ≠ .manyToMany
  standalone : r.inline = false
  src : (refSides r).1.1 < db.tables.length
  dst : (refSides r).2.1 < db.tables.length
  srcCols : ∀ i ∈ (refSides r).1.2, i < (stOf db r).columns.length
  dstCols : ∀ i ∈ (refSides r).2.2, i < (rtOf db r).columns.length
  comment : r.comment = none
  ne1 : (refSides r).1.2 ≠ []
  ne2 : (refSides r).2.2 ≠ []
  quotesT : '"' ∉ (stOf db r).schema ∧ '"' ∉ (stOf db r).name ∧ '"' ∉ (rtOf db r).schema ∧ '"' ∉ (rtOf db r).name
  quotesC : (∀ n ∈ namesAt (stOf db r) (refSides r).1.2, '"' ∉ n) ∧ (∀ n ∈ namesAt (rtOf db r) (refSides r).2.2, '"' ∉ n)
  quotesN : ∀ n, r.name = some n → '"' ∉ n
  oneLine : NoBreak (fkLine r (stOf db r) (rtOf db r))

def scriptStmts (db : Db) : List Stmt :=
  db.enums.map (fun e => Stmt.enum (enumDescOf e)) ++ db.tables.map (fun t => Stmt.table (tabDescOf db t))
    ++ db.refs.map fun r => Stmt.fk (C04.fkDescOf r (stOf db r) (rtOf db r))

/-- `some`: a script has to hold a statement (`renders_db`) -/
structure ScriptReadable (db : Db) : Prop where
  enums : ∀ e ∈ db.enums, EnumReadable e
  tables : ∀ t ∈ db.tables, Readable db t
  refs : ∀ r ∈ db.refs, FkReadable db r
  some : db.tables ≠ []

theorem EnumReadable.renders {e : Enum} (h : EnumReadable e) :
    Renders readBlock (.ok (renderEnum e)) [Stmt.enum (enumDescOf e)] :=
  .single h.desc.1 (congrArg _ (renderEnum_lines e h))
    ((readBlock_createType _ ⟨_, (List.append_assoc _ _ _).symm⟩).trans (by rw [← EnumDesc.lines, h.desc.2]; rfl))

theorem Readable.reads {db : Db} {t : Table} (h : Readable db t) :
    readBlock (tabDescOf db t).lines = some (Stmt.table (tabDescOf db t)) :=
  (readBlock_createTable _ ⟨_, (List.append_assoc _ _ _).symm⟩).trans (by rw [← TabDesc.lines, h.tabDesc.2]; rfl)

theorem Readable.renders {db : Db} {t : Table} (h : Readable db t) :
    Renders readBlock (renderTableWith db t []) [Stmt.table (tabDescOf db t)] :=
  .single h.tabDesc.1 (renderTable_lines db t h) h.reads

open C04 in
theorem FkReadable.line {db : Db} {r : Ref} (h : FkReadable db r) :
    renderRefTop db r = .ok (fkLine r (stOf db r) (rtOf db r))
    ∧ readFk (fkLine r (stOf db r) (rtOf db r)) = some (fkDescOf r (stOf db r) (rtOf db r)) :=
  ⟨renderRefTop_line db r h.kind h.standalone _ _ (by simp [stOf, List.getElem?_eq_getElem h.src])
      (by simp [rtOf, List.getElem?_eq_getElem h.dst]) h.srcCols h.dstCols h.comment,
    readFk_fkLine r _ _ h.ne1 h.ne2 h.quotesT h.quotesC h.quotesN⟩

open C04 in
theorem FkReadable.renders {db : Db} {r : Ref} (h : FkReadable db r) :
    Renders readBlock (renderRefTop db r) [Stmt.fk (fkDescOf r (stOf db r) (rtOf db r))] := by
  have hp : lit "ALTER TABLE " <+: fkLine r (stOf db r) (rtOf db r) := by
    simp only [fkLine, List.append_assoc]; exact List.prefix_append _ _
  refine .single (B := [fkLine r (stOf db r) (rtOf db r)]) ⟨by simp, ?_⟩ h.line.1 (by rw [readBlock_alterTable hp, h.line.2]; rfl)
  simpa using ⟨fun e => by rw [e, lit_eq rfl] at hp; simp at hp, noBreak_nl h.oneLine⟩

/-- **the reader inverts the script renderer, whole scripts** of covered enums, tables and standalone references (no
    inline reference): one CREATE TYPE per enum in order, then one CREATE TABLE per table in declaration order, then one
    ALTER TABLE … FOREIGN KEY per reference in order, on the key holder - each with exactly the model's content, and
    nothing else. -/
theorem read_render_script_all (db : Db) (h : ScriptReadable db) :
    ∃ text, renderDb db = .ok text ∧ readScriptAll text = some (scriptStmts db) := by
  have := (renders_db db (fun r hr => (h.refs r hr).standalone) _ _ _ (fun e he => (h.enums e he).renders)
    (fun t ht => (h.tables t ht).renders) (fun r hr => (h.refs r hr).renders) h.some).read
  simpa only [← List.map_eq_flatMap, readScriptAll, scriptStmts] using this

/-- the reader on a literal script of every covered kind -/
example : readScriptAll (lit "CREATE TYPE \"s\".\"status\" AS ENUM (\n  'new',\n  'it''s'\n);\n\nCREATE TABLE \"a\" (\n  \"id\" int PRIMARY KEY\n);\n\nCREATE TABLE \"b\" (\n  \"a id\" int NOT NULL DEFAULT 0\n);\n\nALTER TABLE \"b\" ADD FOREIGN KEY (\"a id\") REFERENCES \"a\" (\"id\");")
    = some [Stmt.enum ⟨lit "\"s\".\"status\"", [lit "new", lit "it''s"]⟩,
            Stmt.table ⟨lit "\"a\"", [⟨lit "id", lit "int", true, false, false, false, none⟩], none⟩,
            Stmt.table ⟨lit "\"b\"", [⟨lit "a id", lit "int", false, false, false, true, some (lit "0")⟩], none⟩,
            Stmt.fk ⟨lit "\"b\"", none, [lit "a id"], lit "\"a\"", [lit "id"], []⟩] := by
  repeat rw [lit_eq rfl]
  decide +kernel

end C03
end PyDBML
