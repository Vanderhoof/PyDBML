/-
C01 — spellings.  What the proofs need of a keyword written in any mixture of upper and lower case (`KwFactsG`) and of a
name written bare or in double quotes (`Spells`; `SpellsE` for the name of an enum), so that every rule is run
once, for all spellings.
-/
import PyDBMLProofs.Props.C02Run
namespace PyDBML
namespace C02
open Lex Grammar Build

/-- what the proofs need of a spelling `kw` of the keyword `w`, the first letters of the rules tried before it being `others`
    (`k.toNat < 128`: the text of an element does not begin with a byte-order mark, `EForm.headAscii`) -/
def KwFactsG (w : Str) (others : List Char) (kw : Str) : Bool :=
  kw.length == w.length && startsWithCaseless kw w && kw.all (fun c => c != '\t')
    && (match kw with
        | k :: _ => !isWs k && k != '\n' && k != '/' && decide (k.toNat < 128)
            && others.all (fun o => !(pyUpper1 o == pyUpper1 k))
        | [] => false)

theorem kwFactsG_elim (w : Str) (others : List Char) (kw : Str) (h : KwFactsG w others kw = true) :
    kw.length = w.length ∧ startsWithCaseless kw w = true ∧ (∀ c ∈ kw, c ≠ '\t') ∧
      ∃ k ks, kw = k :: ks ∧ isWs k = false ∧ k ≠ '\n' ∧ k ≠ '/' ∧ k.toNat < 128
        ∧ ∀ o ∈ others, (pyUpper1 o == pyUpper1 k) = false := by
  unfold KwFactsG at h
  cases kw with
  | nil => simp at h
  | cons k ks =>
    simp only [Bool.and_eq_true, beq_iff_eq, List.all_eq_true, bne_iff_ne, ne_eq, Bool.not_eq_true',
      decide_eq_true_eq] at h
    obtain ⟨⟨⟨h1, h2⟩, h3⟩, ⟨⟨⟨⟨h4, h5⟩, h6⟩, h7⟩, h8⟩⟩ := h
    exact ⟨h1, h2, h3, k, ks, rfl, h4, h5, h6, h7, h8⟩

/-- `EForm` wants the first character of an element as a field `head : Char`; that a keyword is not empty is known only
    through `KwFactsG`, so the forms write `kw.headD d :: kw.tail`, the default `d` being arbitrary -/
theorem kwG_head {w : Str} {others : List Char} {kw : Str} (h : KwFactsG w others kw = true) (d : Char) :
    (isWs (kw.headD d) = false ∧ kw.headD d ≠ '\n' ∧ kw.headD d ≠ '/') ∧ (kw.headD d).toNat < 128 := by
  obtain ⟨_, _, _, k, ks, rfl, h1, h2, h3, h4, _⟩ := kwFactsG_elim _ _ _ h
  exact ⟨⟨h1, h2, h3⟩, h4⟩

theorem kwG_no_tab {w : Str} {others : List Char} {kw : Str} (h : KwFactsG w others kw = true) (d : Char) {rest : Str}
    (hr : ∀ c ∈ rest, c ≠ '\t') : ∀ c ∈ kw.headD d :: (kw.tail ++ rest), c ≠ '\t' := by
  obtain ⟨_, _, h0, k, ks, rfl, _⟩ := kwFactsG_elim _ _ _ h
  exact List.forall_mem_append.mpr ⟨h0, hr⟩

theorem kwG_rules_fail {w : Str} {others : List Char} {kw : Str} (h : KwFactsG w others kw = true) (d : Char) {ap : Bool}
    {bs : List Str} {A B : Cur → Prop} (hb : Run cBefore bs A B) {r : Str} {e : Bool}
    (hB : ∀ c, B c → AtE (kw.headD d :: r) e c) :
    ('t' ∈ others → Fails (tableRule ap) A) ∧ ('r' ∈ others → Fails refRule A) ∧ ('e' ∈ others → Fails enumRule A) ∧
      ('t' ∈ others → Fails tableGroupRule A) ∧ ('p' ∈ others → Fails projectRule A) := by
  obtain ⟨_, _, _, k, ks, rfl, hk1, _, _, _, hoth⟩ := kwFactsG_elim _ _ _ h
  exact ⟨fun h => fails_tableRule hb ((fails_ckw_head toList_table 0 k r hk1 (hoth _ h)).pre hB),
    fun h => fails_refRule hb ((fails_clit_head toList_ref 0 k r hk1 (hoth _ h)).pre hB),
    fun h => fails_enumRule hb ((fails_clit_head toList_enum 0 k r hk1 (hoth _ h)).pre hB),
    fun h => fails_tableGroupRule hb ((fails_clit_head toList_group 0 k r hk1 (hoth 't' h)).pre hB),
    fun h => fails_projectRule hb ((fails_clit_head toList_project 0 k r hk1 (hoth _ h)).pre hB)⟩

theorem run_kwG {s : String} {others : List Char} {kw : Str} (h : KwFactsG (lit s) others kw = true) (r : Str) :
    Run (clit s) () (At (kw ++ r)) (At r) := by
  obtain ⟨hl, hm, _, k, ks, rfl, hw, _⟩ := kwFactsG_elim _ _ _ h
  exact run_clit rfl 0 k ks r hw hl hm

/-- `nm` is a spelling of the identifier `tn`: followed by a blank, the name rule reads `tn` from it -/
def Spells (nm tn : Str) : Prop :=
  (∀ c ∈ nm, c ≠ '\t') ∧ (∃ x xr, nm = x :: xr ∧ isWs x = false ∧ x ≠ '\n' ∧ x ≠ '/') ∧
    ∀ (c1 : Cur) (r : Str), (skipWs c1).rest = nm ++ ' ' :: r → c1.pastEnd = false →
      ∃ c2, name c1 = .ok tn c2 ∧ c2.rest = ' ' :: r ∧ c2.pastEnd = false

theorem Spells.run {nm tn : Str} (h : Spells nm tn) (k : Nat) (r : Str) :
    Run name tn (At (List.replicate k ' ' ++ (nm ++ ' ' :: r))) (At (' ' :: r)) := fun c hc => by
  obtain ⟨x, xr, rfl, hw, _⟩ := h.2.1
  exact h.2.2 c r (skipWs_rest_spaces c k x _ hc.1 hw) hc.2

theorem spells_quoted (tn : Str) (h : NameOK tn) : Spells ('"' :: (tn ++ ['"'])) tn := by
  refine ⟨?_, ⟨'"', tn ++ ['"'], rfl, by decide, by decide, by decide⟩, ?_⟩
  · simp only [List.forall_mem_cons, List.forall_mem_append, List.mem_nil_iff, false_imp_iff, implies_true, ne_eq, Char.reduceEq,
      not_false_eq_true, true_and, and_true]
    exact fun c hc => (h c hc).2.2.2
  · intro c1 r hr hp
    exact name_quoted_ok c1 tn (' ' :: r) (by rw [hr]; simp) h hp

theorem spells_bare (tn : Str) (hne : tn ≠ []) (hall : tn.all isNameChar = true) : Spells tn tn := by
  obtain ⟨x, xr, rfl⟩ := List.exists_cons_of_ne_nil hne
  have hx : isNameChar x = true := by simp only [List.all_cons, Bool.and_eq_true] at hall; exact hall.1
  refine ⟨?_, ⟨x, xr, rfl, (nameChar_facts x hx).1, (nameChar_facts x hx).2.1, (nameChar_facts x hx).2.2⟩, ?_⟩
  · exact nameChars_no_tab hall
  · intro c1 r hr hp
    exact name_ok c1 (x :: xr) (' ' :: r) hr (by simp) hall (by intro y hy; simp at hy; subst hy; decide) hp

theorem endOK_spelt {nm tn : Str} (h : Spells nm tn) (k : Nat) (r : Str) : EndOK (List.replicate k ' ' ++ (nm ++ r)) := by
  obtain ⟨_, ⟨x, xr, rfl, hq⟩, _⟩ := h
  exact endOK_at k x _ hq

/-- `nm` is a spelling of the enum name `en` (schema public): followed by ` {`, the enum-name rule reads `en` from it -/
def SpellsE (nm en : Str) : Prop :=
  (∀ c ∈ nm, c ≠ '\t') ∧ (∃ x xr, nm = x :: xr ∧ isWs x = false) ∧
    ∀ (c1 : Cur) (r : Str), (skipWs c1).rest = nm ++ ' ' :: '{' :: r → c1.pastEnd = false →
      ∃ c2, enumName c1 = .ok (none, en) c2 ∧ c2.rest = ' ' :: '{' :: r ∧ c2.pastEnd = false

/-- the first alternative (schema, dot, name, no blank between them) reads the same name and stops at the missing dot -/
theorem run_enumName {en : Str} {x y : Char} {a r : Str} (hw : isWs x = false) (hy : y ≠ '.')
    (h : Run name en (AtWs (x :: a)) (At (y :: r))) : Run enumName (none, en) (AtWs (x :: a)) (At (y :: r)) := by
  unfold enumName
  exact .alt_right
    (.skipWs (.bind_after (run_nameRaw hw (h.pre (AtWs.of_at 0 hw))) (.bind (fails_litRaw (by simp [startsWith, Ne.symm hy]))))
      (fun c hc => ⟨hc.1, by simpa using hc.2⟩))
    (.bind h .pure)

theorem spellsE_quoted (en : Str) (h : NameOK en) : SpellsE ('"' :: (en ++ ['"'])) en := by
  refine ⟨?_, ⟨'"', en ++ ['"'], rfl, by decide⟩, fun c1 r hr hp => ?_⟩
  · simp only [List.forall_mem_cons, List.forall_mem_append, List.mem_nil_iff, false_imp_iff, implies_true, ne_eq, Char.reduceEq,
      not_false_eq_true, true_and, and_true]
    exact fun c hc => (h c hc).2.2.2
  · exact run_enumName (by decide) (by decide) (run_nameQ_ws en (' ' :: '{' :: r) h) c1 ⟨by rw [hr]; simp, hp⟩

theorem spellsE_bare (en : Str) (hne : en ≠ []) (hall : en.all isNameChar = true) : SpellsE en en := by
  obtain ⟨x, xr, rfl⟩ := List.exists_cons_of_ne_nil hne
  have hxw := (nameChar_facts x (by simp only [List.all_cons, Bool.and_eq_true] at hall; exact hall.1)).1
  refine ⟨nameChars_no_tab hall, ⟨x, xr, rfl, hxw⟩, fun c1 r hr hp => ?_⟩
  exact run_enumName hxw (by decide) (run_name_ws x xr (' ' :: '{' :: r) hall (by intro y hy; cases hy; decide)) c1 ⟨hr, hp⟩

theorem run_speltE {nm en : Str} (h : SpellsE nm en) (k : Nat) (r : Str) :
    Run enumName (none, en) (At (List.replicate k ' ' ++ (nm ++ ' ' :: '{' :: r))) (At (' ' :: '{' :: r)) := by
  obtain ⟨_, ⟨x, xr, rfl, hw⟩, hsp⟩ := h
  exact fun c hc => hsp c r (skipWs_rest_spaces c k x (xr ++ ' ' :: '{' :: r) hc.1 hw) hc.2

end C02
end PyDBML
