/-
C02/C05/C15 — inline references (`ref: > "t"."c"` among a column's settings): which of a database's references a column
shows, and that the ones written in a column are the ones shown on it.
-/
import PyDBMLProofs.Props.C02FormRefs
namespace PyDBML
namespace C02
open Lex Grammar Build

variable {σ : Type}

def ColForm.itgt (F : ColForm σ) (ts : List (FTab σ)) (r : RSpec) : IRefT :=
  { kind := r.kind, tn := F.tnameAt ts r.t2, cn := F.cnameAt ts r.t2 r.c2 }

/-- what `PyDBMLParser.refs` receives for an inline reference written in column `x.2.1` of table `x.1` -/
def ibp (x : Str × Str × IRefT) : Bp.RefBp :=
  { x.2.2.bp with schema1 := lit "public", table1 := some x.1, col1 := some x.2.1 }

/-- (host table name, host column name, target names) -/
def ColForm.iwritten (F : ColForm σ) (ts : List (FTab σ)) (r : RSpec) : Str × Str × IRefT :=
  (F.tnameAt ts r.t1, F.cnameAt ts r.t1 r.c1, F.itgt ts r)

theorem ColForm.ibp_iwritten (F : ColForm σ) (ts : List (FTab σ)) (r : RSpec) :
    ibp (F.iwritten ts r) = F.bpB ts (r, true) := rfl

/-- the inline references as the document writes them, in document order -/
def ColForm.written (F : ColForm σ) (ts : List (FTab σ)) : List (Str × Str × IRefT) :=
  ts.flatMap fun t => t.cols.flatMap fun s => (F.irefs s).map fun r => (t.name, F.cname s, r)

theorem ColForm.inlineRefsOfColumn_eq (F : ColForm σ) (ts : List (FTab σ)) (hr : F.Resolvable ts) (db : Db)
    (hdb : db.tables = ts.map F.mkTable) (inl rs : List RSpec)
    (hrefs : db.refs = inl.map (fun r => mkRefB (r, true)) ++ rs.map mkRef)
    (hin : ∀ r ∈ inl, F.RSpecIn ts r) (hk : ∀ r ∈ inl, r.kind ≠ .manyToMany)
    (ti ci : Nat) (t : FTab σ) (ht : ts[ti]? = some t) (hci : ci < t.cols.length) :
    Dbml.inlineRefsOfColumn db ti ci
      = (inl.filter fun r => r.t1 == ti && r.c1 == ci).map fun r => mkRefB (r, true) := by
  unfold Dbml.inlineRefsOfColumn
  have h2 : (rs.map mkRef).filter (fun r => r.t1 == ti && r.col1.any (fun k => Dbml.colEq db ti ci r.t1 k) && r.inline) = [] :=
    List.filter_eq_nil_iff.mpr fun r hr' => by
      obtain ⟨q, _, rfl⟩ := List.mem_map.mp hr'
      rw [mkRef_inline, Bool.and_false]; exact Bool.false_ne_true
  rw [hrefs, List.filter_append, h2, List.append_nil, List.filter_map]
  congr 1
  apply List.filter_congr
  intro r hrm
  obtain ⟨ra, rb, h1, _, h3, _⟩ := hin r hrm
  -- the reference is hosted at (`r.t1`, `r.c1`); `Column.__eq__` between positions of one table compares names
  show (r.t1 == ti && ([r.c1].any fun k => Dbml.colEq db ti ci r.t1 k) && (mkRefB (r, true)).inline) = _
  rw [mkRefB_inline_true r (hk r hrm), Bool.and_true, List.any_cons, List.any_nil, Bool.or_false]
  by_cases hti : r.t1 = ti
  · subst hti
    obtain rfl : ra = t := Option.some.inj (h1.symm.trans ht)
    rw [beq_self_eq_true, Bool.true_and, Bool.true_and]
    by_cases hcc : r.c1 = ci
    · subst hcc; simp [Dbml.colEq]
    · rw [beq_eq_false_iff_ne.mpr hcc]
      cases hce : Dbml.colEq db r.t1 ci r.t1 r.c1 with
      | false => rfl
      | true => exact absurd (F.colEq_ok ts hr db hdb _ _ _ _ ra ra h1 h1 hci h3 hce).2.symm hcc
  · rw [beq_eq_false_iff_ne.mpr hti]; rfl

theorem ColForm.written_filter (F : ColForm σ) (ts : List (FTab σ)) (hr : F.Resolvable ts) (t : FTab σ) (s : σ)
    (ht : t ∈ ts) (hs : s ∈ t.cols) :
    (F.written ts).filter (fun x => decide (x.2.1 = F.cname s) && decide (x.1 = t.name))
      = (F.irefs s).map fun r => (t.name, F.cname s, r) := by
  rw [← List.filter_filter]
  have h1 : (F.written ts).filter (fun x => decide (x.1 = t.name))
      = t.cols.flatMap fun s => (F.irefs s).map fun r => (t.name, F.cname s, r) := by
    unfold ColForm.written
    apply flatMap_filter_key (fun a : FTab σ => a.name)
      (fun a => a.cols.flatMap fun s => (F.irefs s).map fun r => (a.name, F.cname s, r)) _ t ts hr.tnames ht
    intro a _ b hb
    obtain ⟨s', _, hb'⟩ := List.mem_flatMap.mp hb
    obtain ⟨r, _, rfl⟩ := List.mem_map.mp hb'
    rfl
  rw [h1]
  apply flatMap_filter_key (fun a : σ => F.cname a) (fun s => (F.irefs s).map fun r => (t.name, F.cname s, r)) _ s t.cols
    (hr.cnames t ht) hs
  intro a _ b hb
  obtain ⟨r, _, rfl⟩ := List.mem_map.mp hb
  rfl

/-- **the inline references a column writes are the names of the references hosted at its position** -/
theorem ColForm.irefs_eq (F : ColForm σ) (ts : List (FTab σ)) (hr : F.Resolvable ts) (inl : List RSpec)
    (hin : ∀ r ∈ inl, F.RSpecIn ts r) (hw : F.written ts = inl.map (F.iwritten ts))
    (ti ci : Nat) (t : FTab σ) (s : σ) (ht : ts[ti]? = some t) (hs : t.cols[ci]? = some s) :
    F.irefs s = (inl.filter fun r => r.t1 == ti && r.c1 == ci).map (F.itgt ts) := by
  have htm : t ∈ ts := List.mem_of_getElem? ht
  have hsm : s ∈ t.cols := List.mem_of_getElem? hs
  obtain ⟨hcl, hcs⟩ := List.getElem?_eq_some_iff.mp hs
  have hA := F.written_filter ts hr t s htm hsm
  rw [hw, List.filter_map] at hA
  have hB : inl.filter ((fun x : Str × Str × IRefT => decide (x.2.1 = F.cname s) && decide (x.1 = t.name)) ∘ F.iwritten ts)
      = inl.filter fun r => r.t1 == ti && r.c1 == ci := by
    apply List.filter_congr
    intro r hrm
    obtain ⟨ra, rb, h1, _, h3, _⟩ := hin r hrm
    simp only [Function.comp, ColForm.iwritten, F.tnameAt_eq h1, F.cnameAt_eq h1 h3]
    rw [Bool.eq_iff_iff]
    simp only [Bool.and_eq_true, decide_eq_true_eq, beq_iff_eq]
    constructor
    · rintro ⟨hc, hn⟩
      exact F.names_inj ts hr r.t1 ti r.c1 ci ra t h1 ht h3 hcl hn (by rw [hcs]; exact hc)
    · rintro ⟨rfl, rfl⟩
      have : ra = t := by rw [h1] at ht; exact Option.some.inj ht
      subst this
      exact ⟨by rw [hcs], rfl⟩
  rw [hB] at hA
  have := congrArg (List.map (fun x : Str × Str × IRefT => x.2.2)) hA
  simp only [List.map_map, Function.comp_def, ColForm.iwritten] at this
  simpa using this.symm

theorem ColForm.renderInlineRef_ok (F : ColForm σ) (db : Db) (ts : List (FTab σ)) (hdb : db.tables = ts.map F.mkTable)
    (r : RSpec) (hin : F.RSpecIn ts r) :
    Dbml.renderInlineRef db (mkRefB (r, true)) = .ok (F.itgt ts r).text := by
  obtain ⟨ta, tb, h1, h2, hc1, hc2⟩ := hin
  unfold Dbml.renderInlineRef
  simp [mkRefB, mkRef, F.getD?_mkTable hdb h2, F.getD?_column tb hc2, F.qualName_mkTable, bind, Except.bind, pure, Except.pure,
    ColForm.itgt, IRefT.text, F.tnameAt_eq h2, F.cnameAt_eq h2 hc2, ColForm.cname, lit]

theorem ColForm.inline_rendered (F : ColForm σ) (ts : List (FTab σ)) (hr : F.Resolvable ts) (db : Db)
    (hdb : db.tables = ts.map F.mkTable) (inl rs : List RSpec)
    (hrefs : db.refs = inl.map (fun r => mkRefB (r, true)) ++ rs.map mkRef)
    (hin : ∀ r ∈ inl, F.RSpecIn ts r) (hk : ∀ r ∈ inl, r.kind ≠ .manyToMany) (hw : F.written ts = inl.map (F.iwritten ts))
    (ti ci : Nat) (t : FTab σ) (s : σ) (ht : ts[ti]? = some t) (hs : t.cols[ci]? = some s) :
    (Dbml.inlineRefsOfColumn db ti ci).mapM (Dbml.renderInlineRef db) = .ok ((F.irefs s).map IRefT.text) := by
  obtain ⟨hcl, _⟩ := List.getElem?_eq_some_iff.mp hs
  rw [F.inlineRefsOfColumn_eq ts hr db hdb inl rs hrefs hin hk ti ci t ht hcl, F.irefs_eq ts hr inl hin hw ti ci t s ht hs,
    List.mapM_map, List.map_map]
  apply mapM_ok_map_mem
  intro r hrm
  exact F.renderInlineRef_ok db ts hdb r (hin r (List.mem_filter.mp hrm).1)

theorem filter_not_inline (inl rs : List RSpec) (hk : ∀ r ∈ inl, r.kind ≠ .manyToMany) :
    (inl.map (fun r => mkRefB (r, true)) ++ rs.map mkRef).filter (!·.inline) = rs.map mkRef := by
  have h1 : (inl.map (fun r => mkRefB (r, true))).filter (!·.inline) = [] :=
    List.filter_eq_nil_iff.mpr fun x hx => by
      obtain ⟨r, hr, rfl⟩ := List.mem_map.mp hx
      rw [mkRefB_inline_true r (hk r hr)]; exact Bool.false_ne_true
  have h2 : (rs.map mkRef).filter (!·.inline) = rs.map mkRef :=
    List.filter_eq_self.mpr fun x hx => by
      obtain ⟨r, _, rfl⟩ := List.mem_map.mp hx
      rw [mkRef_inline]; rfl
  rw [List.filter_append, h1, h2, List.nil_append]

theorem buildColumn_name (enums : List Enum) (b : Bp.ColBp) (c : Column) (h : buildColumn enums b = .ok c) :
    c.name = b.name := by
  unfold buildColumn at h
  simp only [bind, Except.bind, pure, Except.pure] at h
  split at h
  · cases h
  · split at h
    · cases h
    · split at h
      · cases h
      · cases h; rfl

end C02
end PyDBML
