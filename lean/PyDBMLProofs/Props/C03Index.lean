/-
C03 — the reader of the DDL, continued: `CREATE INDEX` statements over column subjects (`read_render_index`).
(Namespace C04: there SqlRead.lean has `readIndex`.)
-/
import PyDBMLModel
import PyDBMLProofs.Props.C04Read
namespace PyDBML
namespace C04
open Sql C03

/-- the statement the model writes for an index that is not a pk index, over the columns at positions `cs` -/
def indexLine (t : Table) (ix : Index) (cs : List Nat) : Str :=
  lit "CREATE " ++ (if ix.unique then lit "UNIQUE " else []) ++ lit "INDEX "
    ++ (if truthy ix.name then '"' :: ix.name.getD [] ++ lit "\" " else [])
    ++ lit "ON " ++ qualName t.schema t.name ++ [' ']
    ++ (if truthy ix.type then lit "USING " ++ upperAscii (ix.type.getD []) ++ [' '] else [])
    ++ '(' :: joinWith (lit ", ") ((namesAt t cs).map quoteN) ++ lit ");"

theorem renderIndex_line (t : Table) (ix : Index) (cs : List Nat) (hpk : ix.pk = false) (hcm : ix.comment = none)
    (hsub : ix.subjects = cs.map Subject.col) (hin : ∀ i ∈ cs, i < t.columns.length) :
    renderIndex t ix = .ok (indexLine t ix cs) := by
  have hm : ix.subjects.mapM (renderSubject t) = .ok ((namesAt t cs).map quoteN) := by
    rw [hsub, List.mapM_map, namesAt, List.map_map]
    exact mapM_ok_map_mem _ _ _ fun i hi => by
      simp [renderSubject, getD?, List.getElem?_eq_getElem (hin i hi), bind, Except.bind, pure, Except.pure, quoteN]
  unfold renderIndex
  simp only [hm, bind, Except.bind, pure, Except.pure, hpk, Bool.false_eq_true, ↓reduceIte, Sql.optComment, hcm, List.nil_append]
  rfl

def indexDescOf (t : Table) (ix : Index) (cs : List Nat) : IndexDesc :=
  { unique := ix.unique, name := if truthy ix.name then ix.name else none, table := qualName t.schema t.name,
    method := if truthy ix.type then some (upperAscii (ix.type.getD [])) else none, cols := namesAt t cs }

theorem readIndexName_ok (nm : Option Str) (X : Str) (hq : ∀ n, nm = some n → '"' ∉ n) (hX : readIndexName X = (none, X)) :
    readIndexName ((if truthy nm then '"' :: (nm.getD [] ++ lit "\" ") else []) ++ X) = (if truthy nm then nm else none, X) := by
  match nm, hq with
  | none, _ => exact hX
  | some [], _ => exact hX
  | some (a :: b), hq =>
    simp only [truthy, ↓reduceIte, Option.getD_some]
    rw [show ('"' :: ((a :: b) ++ lit "\" ")) ++ X = '"' :: ((a :: b) ++ '"' :: (' ' :: X)) by rw [lit_eq rfl]; simp]
    simp only [readIndexName, readQuoted_ok (a :: b) _ (hq _ rfl)]

theorem readUsing_ok (ty : Option Str) (W X : Str) (hW : ' ' ∉ W) (hX : readUsing X = (none, X)) :
    readUsing ((if truthy ty then lit "USING " ++ (W ++ [' ']) else []) ++ X) = (if truthy ty then some W else none, X) := by
  cases truthy ty
  · exact hX
  · simp only [↓reduceIte, List.append_assoc, List.cons_append, List.nil_append, readUsing, stripKw_append, span_until hW]

theorem readIndex_indexLine (t : Table) (ix : Index) (cs : List Nat) (hne : cs ≠ [])
    (hqt : '"' ∉ t.schema ∧ '"' ∉ t.name) (hqc : ∀ n ∈ namesAt t cs, '"' ∉ n)
    (hqn : ∀ n, ix.name = some n → '"' ∉ n) (hty : ' ' ∉ upperAscii (ix.type.getD [])) :
    readIndex (indexLine t ix cs) = some (indexDescOf t ix cs) := by
  -- what follows an optional part is not taken for one
  have hU : ∀ Y : Str, stripKw (lit "UNIQUE ") (lit "INDEX " ++ Y) = (false, lit "INDEX " ++ Y) := fun Y => by
    rw [lit_eq (s := "UNIQUE ") rfl, lit_eq (s := "INDEX ") rfl]; rfl
  have hN : ∀ Y : Str, readIndexName (lit "ON " ++ Y) = (none, lit "ON " ++ Y) := fun Y => by rw [lit_eq rfl]; rfl
  have hT : ∀ Y : Str, readUsing ('(' :: Y) = (none, '(' :: Y) := fun Y => by rw [readUsing, lit_eq rfl]; rfl
  unfold readIndex indexLine
  rw [lit_eq (s := ");") rfl]
  simp only [List.append_assoc, List.cons_append, List.nil_append, stripKw_append, stripKw_opt _ _ _ (hU _),
    readIndexName_ok _ _ hqn (hN _), readQual_ok _ _ (' ' :: _) hqt.1 hqt.2 rfl, readUsing_ok _ _ _ hty (hT _),
    readNamesR_text _ _ (by simpa [namesAt] using hne) hqc]
  rfl

/-- **the reader inverts the index renderer**: for an index that is not a pk index, without comment, over existing
    columns (at least one), no double quote in a name, no blank in the type word: one `CREATE INDEX` statement, `UNIQUE`
    exactly when set, the name exactly when there is a non-empty one, `ON` the table as qualified in its CREATE TABLE,
    `USING` the upper-cased type exactly when one is set, and the subject columns by name in order. -/
theorem read_render_index (t : Table) (ix : Index) (cs : List Nat) (hpk : ix.pk = false) (hcm : ix.comment = none)
    (hsub : ix.subjects = cs.map Subject.col) (hin : ∀ i ∈ cs, i < t.columns.length) (hne : cs ≠ [])
    (hqt : '"' ∉ t.schema ∧ '"' ∉ t.name) (hqc : ∀ n ∈ namesAt t cs, '"' ∉ n)
    (hqn : ∀ n, ix.name = some n → '"' ∉ n) (hty : ' ' ∉ upperAscii (ix.type.getD [])) :
    ∃ line, renderIndex t ix = .ok line ∧ readIndex line = some (indexDescOf t ix cs) :=
  ⟨_, renderIndex_line t ix cs hpk hcm hsub hin, readIndex_indexLine t ix cs hne hqt hqc hqn hty⟩

example : readIndex (lit "CREATE UNIQUE INDEX \"by name\" ON \"s\".\"t\" USING HASH (\"a\", \"b c\");")
      = some ⟨true, some (lit "by name"), lit "\"s\".\"t\"", some (lit "HASH"), [lit "a", lit "b c"]⟩
    ∧ readIndex (lit "CREATE INDEX ON \"t\" (\"a\");") = some ⟨false, none, lit "\"t\"", none, [lit "a"]⟩ := by
  repeat rw [lit_eq rfl]
  decide +kernel

end C04
end PyDBML
