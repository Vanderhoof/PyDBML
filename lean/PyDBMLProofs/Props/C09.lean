/-
C09 — the container stays consistent under any sequence of add, delete and rename.
-/
import PyDBMLModel
namespace PyDBML
namespace C09
open Cont

/-- members list and back-pointer flags agree: no member twice, and an object's back-pointer is set
    exactly when it is a member -/
def Linked (members : List Nat) (flag : Nat → Option Bool) : Prop :=
  members.Nodup ∧ ∀ i, flag i = some true ↔ i ∈ members

def tFlag (s : St) (i : Nat) : Option Bool := (s.T[i]?).map (·.inDb)
def rFlag (s : St) (i : Nat) : Option Bool := (s.R[i]?).map (·.inDb)
def eFlag (s : St) (i : Nat) : Option Bool := (s.E[i]?).map (·.inDb)
def gFlag (s : St) (i : Nat) : Option Bool := (s.G[i]?).map (·.inDb)
def nFlag (s : St) (i : Nat) : Option Bool := s.N[i]?
def pFlag (s : St) (i : Nat) : Option Bool := s.P[i]?

structure Inv (s : St) : Prop where
  tables : Linked s.tables (tFlag s)
  refs : Linked s.refs (rFlag s)
  enums : Linked s.enums (eFlag s)
  groups : Linked s.groups (gFlag s)
  sticky : Linked s.sticky (nFlag s)
  project : ∀ i, pFlag s i = some true ↔ s.project = some i

theorem getElem?_modify' {α} (l : List α) (i j : Nat) (g : α → α) :
    (l.modify i g)[j]? = if j = i then (l[j]?).map g else l[j]? := by
  rw [List.getElem?_modify]
  by_cases h : j = i
  · subst h; simp
  · have : ¬ i = j := fun e => h e.symm
    simp [h, this]

theorem getElem?_set' {α} (l : List α) (i j : Nat) (v : α) :
    (l.set i v)[j]? = if j = i then (l[j]?).map (fun _ => v) else l[j]? := by
  rw [List.getElem?_set]
  by_cases h : j = i
  · subst h
    by_cases hl : j < l.length <;> simp [hl]
  · have : ¬ i = j := fun e => h e.symm
    simp [h, this]

theorem mem_eraseIdx_of_nodup {m : List Nat} (hn : m.Nodup) {k x : Nat} (hk : m[k]? = some x) (j : Nat) :
    j ∈ m.eraseIdx k ↔ j ∈ m ∧ j ≠ x := by
  rw [List.mem_eraseIdx_iff_getElem?]
  constructor
  · rintro ⟨i, hik, hi⟩
    refine ⟨List.mem_of_getElem? hi, fun e => hik ?_⟩
    have hlt : i < m.length := (List.getElem?_eq_some_iff.mp hi).1
    exact (List.getElem?_inj hlt hn).mp (by rw [hi, hk, e])
  · rintro ⟨hj, hne⟩
    obtain ⟨i, hi⟩ := List.mem_iff_getElem?.mp hj
    exact ⟨i, fun e => hne (Option.some.inj ((e ▸ hi).symm.trans hk)), hi⟩

/- Every `add` or `delete` that changes anything appends a non-member and sets its flag, or erases a member and clears
   it; the flags are read off a list that is changed by `modify` (or `set`) at that one object. -/

theorem Linked.add {m : List Nat} {f f' : Nat → Option Bool} {i : Nat} (h : Linked m f) (hi : i ∉ m)
    (hf : ∀ j, f' j = if j = i then some true else f j) : Linked (m ++ [i]) f' := by
  refine ⟨List.nodup_append.mpr ⟨h.1, by simp, ?_⟩, fun j => ?_⟩
  · intro a ha b hb hab
    exact hi (List.mem_singleton.mp hb ▸ hab ▸ ha)
  · rw [hf j, List.mem_append, List.mem_singleton]
    by_cases hj : j = i
    · simp [hj]
    · simp [hj, h.2 j]

theorem Linked.del {m : List Nat} {f f' : Nat → Option Bool} {k x : Nat} (h : Linked m f)
    (hk : m[k]? = some x) (hf : ∀ j, f' j = if j = x then (f j).map (fun _ => false) else f j) :
    Linked (m.eraseIdx k) f' := by
  refine ⟨h.1.sublist (List.eraseIdx_sublist m k), ?_⟩
  intro j
  rw [hf j, mem_eraseIdx_of_nodup h.1 hk]
  by_cases hj : j = x
  · subst hj
    cases f j <;> simp
  · simp [hj, h.2 j]

theorem Linked.congr {m : List Nat} {f f' : Nat → Option Bool} (h : Linked m f) (hf : ∀ j, f' j = f j) :
    Linked m f' :=
  ⟨h.1, fun j => by rw [hf j]; exact h.2 j⟩

theorem Linked.add_modify {α} {fl : α → Bool} {l : List α} {m : List Nat} {i : Nat} {x : α} {g : α → α}
    (h : Linked m fun j => (l[j]?).map fl) (hi : i ∉ m) (hx : l[i]? = some x) (hg : fl (g x) = true) :
    Linked (m ++ [i]) fun j => ((l.modify i g)[j]?).map fl := by
  refine h.add hi fun j => ?_
  rw [getElem?_modify']
  by_cases hj : j = i
  · simp [hj, hx, hg]
  · simp [hj]

theorem Linked.del_modify {α} {fl : α → Bool} {l : List α} {m : List Nat} {k x : Nat} {g : α → α}
    (h : Linked m fun j => (l[j]?).map fl) (hk : m[k]? = some x) (hg : ∀ y, fl (g y) = false) :
    Linked (m.eraseIdx k) fun j => ((l.modify x g)[j]?).map fl := by
  refine h.del hk fun j => ?_
  rw [getElem?_modify']
  by_cases hj : j = x
  · simp [hj, Option.map_map, Function.comp_def, hg]
  · simp [hj]

theorem Linked.nil {α} {fl : α → Bool} {l : List α} (h : ∀ x ∈ l, fl x = false) :
    Linked [] fun j => (l[j]?).map fl := by
  refine ⟨List.nodup_nil, fun i => ?_⟩
  show (l[i]?).map fl = some true ↔ _
  cases hi : l[i]? with
  | none => simp
  | some x => simp [h x (List.mem_of_getElem? hi)]

theorem Linked.lt {α} {fl : α → Bool} {l : List α} {m : List Nat} (h : Linked m fun j => (l[j]?).map fl) {j : Nat}
    (hj : j ∈ m) : j < l.length := by
  have := (h.2 j).mpr hj
  rcases Nat.lt_or_ge j l.length with hl | hl
  · exact hl
  · simp [List.getElem?_eq_none hl] at this

theorem Linked.snoc {α} {fl : α → Bool} {l : List α} {m : List Nat} (h : Linked m fun j => (l[j]?).map fl) {x : α}
    (hx : fl x = false) : Linked m fun j => ((l ++ [x])[j]?).map fl := by
  refine ⟨h.1, fun j => (Iff.trans ?_ (h.2 j))⟩
  rcases Nat.lt_trichotomy j l.length with hl | he | hg
  · simp [List.getElem?_append_left hl]
  · simp [he, hx]
  · simp [List.getElem?_eq_none (Nat.le_of_lt hg), List.getElem?_eq_none (show (l ++ [x]).length ≤ j by simp; omega)]

/-- `(none : Option Nat) = some i` is `False`, in the shape `Inv.project` has once `project` is `none` -/
theorem flag_clear {P : List Bool} {pr : Option Nat} (h : ∀ i, P[i]? = some true ↔ pr = some i) (i : Nat) :
    (match pr with | some p => P.set p false | none => P)[i]? = some true ↔ (none : Option Nat) = some i := by
  cases pr with
  | none => exact h i
  | some p =>
    simp only [getElem?_set', reduceCtorEq, iff_false]
    by_cases hip : i = p
    · subst hip; cases P[i]? <;> simp
    · simp only [hip, ↓reduceIte]
      exact fun hx => hip (Option.some.inj ((h i).mp hx)).symm

theorem flag_set {P : List Bool} {i : Nat} (h : ∀ j, P[j]? = some true ↔ (none : Option Nat) = some j)
    (hi : i < P.length) (j : Nat) : (P.set i true)[j]? = some true ↔ some i = some j := by
  rw [getElem?_set']
  by_cases hj : j = i
  · simp [hj, hi]
  · simp only [hj, ↓reduceIte, Option.some.injEq]
    exact ⟨fun hx => absurd ((h j).mp hx) nofun, fun e => absurd e.symm hj⟩

theorem not_mem_of_indexOf_none {members : List Nat} {i : Nat} {eq : Nat → Bool}
    (h : indexOf members i eq = none) : i ∉ members := by
  unfold indexOf at h
  rw [List.findIdx?_eq_none_iff] at h
  intro hm
  have := h i hm
  simp at this

theorem getElem?_of_indexOf_some {members : List Nat} {i k : Nat} {eq : Nat → Bool}
    (h : indexOf members i eq = some k) : ∃ x, members[k]? = some x := by
  unfold indexOf at h
  have := (List.findIdx?_eq_some_iff_getElem.mp h).1
  exact ⟨members[k], List.getElem?_eq_getElem this⟩

theorem not_mem_of_idIndex_none {members : List Nat} {i : Nat} (h : idIndex members i = none) : i ∉ members :=
  not_mem_of_indexOf_none (eq := fun _ => false) (by simpa [indexOf, idIndex] using h)

theorem getElem?_of_idIndex_some {members : List Nat} {i k : Nat} (h : idIndex members i = some k) :
    members[k]? = some i := by
  unfold idIndex at h
  obtain ⟨hk, hp, _⟩ := List.findIdx?_eq_some_iff_getElem.mp h
  simp at hp
  rw [List.getElem?_eq_getElem hk, hp]

/- A step rewrites the fields of one kind of object and leaves the others as they are, so the rest of the
   invariant is carried over as it stands (`{ h with … }`). -/

theorem inv_setT (s : St) (i : Nat) (g : TObj → TObj) (hg : ∀ t, (g t).inDb = t.inDb) (h : Inv s) :
    Inv (setT s i g) := by
  refine { h with tables := h.tables.congr fun j => ?_ }
  show ((s.T.modify i g)[j]?).map (·.inDb) = _
  rw [getElem?_modify']
  split <;> simp [tFlag, Option.map_map, Function.comp_def, hg]

theorem step_delete_sticky (s : St) (i : Nat) (h : Inv s) : Inv (step s (.deleteSticky i)).1 := by
  simp only [step]
  split
  · exact h
  · rename_i k hidx
    refine { h with sticky := h.sticky.del (getElem?_of_idIndex_some hidx) fun j => ?_ }
    show (s.N.set i false)[j]? = _
    rw [getElem?_set']
    rfl

theorem step_delete_project (s : St) (h : Inv s) : Inv (step s .deleteProject).1 := by
  simp only [step]
  split
  · exact h
  · rename_i p hpr
    exact { h with project := fun j => by simpa [hpr, pFlag] using flag_clear (pr := s.project) h.project j }

theorem step_inv (s : St) (op : Op) (h : Inv s) : Inv (step s op).1 := by
  cases op with
  | add k i =>
    cases k with
    | table =>
      simp only [step]
      split
      · exact h
      · rename_i t hT
        cases hidx : tIndex s i with
        | some k => exact h
        | none =>
          have hi : i ∉ s.tables := not_mem_of_indexOf_none (by simpa only [tIndex, hT] using hidx)
          have key : Inv { setT s i (fun t => { t with inDb := true }) with tables := s.tables ++ [i] } :=
            { h with tables := h.tables.add_modify hi hT rfl }
          simp only [Option.isSome_none, Bool.false_eq_true, ↓reduceIte]
          -- the two key tests (full name, alias): refused leaves `s`, passed gives the state of `key`
          repeat' split
          all_goals first | exact h | exact key
    | ref =>
      simp only [step]
      split
      · exact h
      · rename_i r hR
        split
        · exact h
        · cases hidx : rIndex s i with
          | some k => exact h
          | none =>
            have hi : i ∉ s.refs := not_mem_of_indexOf_none (by simpa only [rIndex, hR] using hidx)
            exact { h with refs := h.refs.add_modify hi hR rfl }
    | enum =>
      simp only [step]
      split
      · exact h
      · rename_i e hE
        cases hidx : eIndex s i with
        | some k => exact h
        | none =>
          have hi : i ∉ s.enums := not_mem_of_indexOf_none (by simpa only [eIndex, hE] using hidx)
          simp only [Option.isSome_none, Bool.false_eq_true, ↓reduceIte]
          split
          · exact h
          · exact { h with enums := h.enums.add_modify hi hE rfl }
    | group =>
      simp only [step]
      split
      · exact h
      · rename_i g hG
        cases hidx : idIndex s.groups i with
        | some k => exact h
        | none =>
          simp only [Option.isSome_none, Bool.false_eq_true, ↓reduceIte]
          split
          · exact h
          · exact { h with groups := h.groups.add_modify (not_mem_of_idIndex_none hidx) hG rfl }
    | sticky =>
      simp only [step]
      split
      · exact h
      · rename_i b hN
        cases hidx : idIndex s.sticky i with
        | some k => exact h
        | none =>
          refine { h with sticky := h.sticky.add (not_mem_of_idIndex_none hidx) fun j => ?_ }
          show (s.N.set i true)[j]? = _
          rw [getElem?_set']
          by_cases hj : j = i
          · simp [hj, hN]
          · simp [hj, nFlag]
    | project =>
      simp only [step]
      split
      · exact h
      · rename_i b hP
        refine { h with project := flag_set (flag_clear h.project) ?_ }
        have := (List.getElem?_eq_some_iff.mp hP).1
        cases s.project <;> simpa using this
    | other => exact h
  | delete k i =>
    cases k with
    | table =>
      simp only [step]
      split
      · exact h
      · split
        · rename_i m hm
          exact { h with tables := h.tables.del_modify hm fun _ => rfl }
        · exact h
    | ref =>
      simp only [step]
      split
      · exact h
      · split
        · rename_i m hm
          exact { h with refs := h.refs.del_modify hm fun _ => rfl }
        · exact h
    | enum =>
      simp only [step]
      split
      · exact h
      · split
        · rename_i m hm
          exact { h with enums := h.enums.del_modify hm fun _ => rfl }
        · exact h
    | group =>
      simp only [step]
      split
      · exact h
      · rename_i k hidx
        exact { h with groups := h.groups.del_modify (getElem?_of_idIndex_some hidx) fun _ => rfl }
    | sticky => exact step_delete_sticky s i h
    | project => exact step_delete_project s h
    | other => exact h
  | deleteSticky i => exact step_delete_sticky s i h
  | deleteProject => exact step_delete_project s h
  | setName i x | setSchema i x | setAlias i x =>
    dsimp only [step]
    split
    · exact inv_setT s i _ (fun _ => rfl) h
    · exact h

/-- after ANY history of operations, successful or rejected, interleaved with renames -/
theorem reach_inv (s : St) (ops : List Op) (h : Inv s) : Inv (run s ops) := by
  unfold run
  induction ops generalizing s with
  | nil => exact h
  | cons op ops ih => exact ih _ (step_inv s op h)

theorem init_inv (T : List TObj) (R : List RObj) (E : List EObj) (G : List GObj) (n p : Nat)
    (hT : ∀ t ∈ T, t.inDb = false) (hR : ∀ r ∈ R, r.inDb = false) (hE : ∀ e ∈ E, e.inDb = false)
    (hG : ∀ g ∈ G, g.inDb = false) :
    Inv { T := T, R := R, E := E, G := G, N := List.replicate n false, P := List.replicate p false } :=
  ⟨Linked.nil hT, Linked.nil hR, Linked.nil hE, Linked.nil hG,
    ⟨List.nodup_nil, fun i => by simp [nFlag, List.getElem?_replicate]⟩,
    fun i => by simp [pFlag, List.getElem?_replicate]⟩

theorem rejected_unchanged (s : St) (op : Op) (h : (step s op).2 ≠ .ok) : (step s op).1 = s := by
  -- every branch of `step` returns the state it was given, or `.ok`
  generalize hr : step s op = r at h ⊢
  cases op with
  | add k i | delete k i =>
    cases k <;> dsimp only [step] at hr <;> (repeat' split at hr) <;> subst hr <;> first | rfl | exact absurd rfl h
  | _ => dsimp only [step] at hr <;> (repeat' split at hr) <;> subst hr <;> first | rfl | exact absurd rfl h

/-- iteration / positional lookup, "the tables added and not deleted, in insertion order": the list only ever
    changes by appending the added table or by erasing one position on an accepted `delete` (which one is left
    open; `step` takes `tIndex s i`) -/
theorem tables_step (s : St) (op : Op) :
    (step s op).1.tables = s.tables
    ∨ (∃ i, op = .add .table i ∧ (step s op).2 = .ok ∧ (step s op).1.tables = s.tables ++ [i])
    ∨ (∃ i k, op = .delete .table i ∧ (step s op).2 = .ok ∧ (step s op).1.tables = s.tables.eraseIdx k) := by
  -- every branch of `step` leaves the table list alone, but the accepted `add .table` and `delete .table`
  generalize hr : step s op = r
  cases op with
  | add k i | delete k i =>
    cases k <;> dsimp only [step] at hr <;> (repeat' split at hr) <;> subst hr <;>
      first | exact .inl rfl | exact .inr (.inl ⟨_, rfl, rfl, rfl⟩) | exact .inr (.inr ⟨_, _, rfl, rfl, rfl⟩)
  | _ => dsimp only [step] at hr <;> (repeat' split at hr) <;> subst hr <;> exact .inl rfl

/-- lookup by full name or alias only ever finds a contained table, under one of its CURRENT names -/
theorem lookup_sound (s : St) (key : Str) (i : Nat) (h : lookup s key = some i) :
    i ∈ s.tables ∧ ∃ t, s.T[i]? = some t ∧ (t.fullName = key ∨ t.alias = some key) := by
  unfold lookup at h
  cases hf : (dictSeq s).reverse.find? (fun p => p.1 == key) with
  | none => simp [hf] at h
  | some p =>
    have hmem : p ∈ dictSeq s := List.mem_reverse.mp (List.mem_of_find?_eq_some hf)
    have hkey : p.1 = key := by simpa using List.find?_some hf
    obtain rfl : p.2 = i := by simpa [hf] using h
    unfold dictSeq at hmem
    rw [List.mem_flatMap] at hmem
    obtain ⟨j, hj, hp⟩ := hmem
    cases hT : s.T[j]? with
    | none => simp [hT] at hp
    | some t =>
      simp only [hT] at hp
      rcases List.mem_cons.mp hp with rfl | hp
      · exact ⟨hj, t, hT, Or.inl hkey⟩
      · cases ha : t.alias with
        | none => simp [ha] at hp
        | some a =>
          obtain rfl : p = (a, j) := by simpa [ha] using hp
          exact ⟨hj, t, hT, Or.inr (ha.trans (congrArg some hkey))⟩

theorem project_replaced (s : St) (i p : Nat) (hi : i < s.P.length) (hp : s.project = some p) (hne : p ≠ i) :
    (step s (.add .project i)).1.project = some i ∧ pFlag (step s (.add .project i)).1 p = (pFlag s p).map (fun _ => false)
    ∧ (step s (.add .project i)).2 = .ok := by
  simp only [step]
  have : s.P[i]? = some s.P[i] := List.getElem?_eq_getElem hi
  simp only [this, hp, pFlag, true_and, and_true]
  rw [getElem?_set', if_neg hne, getElem?_set', if_pos rfl]

end C09
end PyDBML
