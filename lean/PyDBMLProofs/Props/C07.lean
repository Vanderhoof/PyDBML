/-
C07 — malformed text is never accepted: the whole input must be valid DBML.
-/
import PyDBMLProofs.Hoare
namespace PyDBML
namespace C07
open Lex Grammar

theorem stringEnd_ok (c c' : Cur) (h : stringEnd c = .ok () c') : c'.rest = [] := by
  unfold stringEnd at h
  simp only at h
  split at h
  · cases h
    simp_all
  · cases h

/-- A database (blueprint list) is produced only if the document rule ends with `StringEnd`
    succeeding: nothing of the text is left at the cursor returned — no truncation. -/
theorem accepts_only_whole_input (props : Bool) (text : Str) (es : List Bp.Elem) (c : Cur)
    (h : parseDoc props text = .ok es c) : c.rest = [] := by
  -- `document` is exactly: the elements, `skipNl`, `stringEnd`, `pure`
  obtain ⟨_, _, _, h⟩ := Hoare.pbind_ok h
  obtain ⟨_, _, _, h⟩ := Hoare.pbind_ok h
  obtain ⟨_, _, h3, h⟩ := Hoare.pbind_ok h
  cases h
  exact stringEnd_ok _ _ h3

end C07
end PyDBML
