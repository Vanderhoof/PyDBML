/-
C01 — how many empty lines (one or more) stand between elements does not matter (`parseDoc_elems_gaps`, a case of
`parseDoc_elems_gaps_end`, C02Doc.lean).
-/
import PyDBMLProofs.Props.C02Doc
namespace PyDBML
namespace C02
open Lex Grammar Build

variable {ap : Bool}

/-- before each element the line break that ends the previous one, an empty line, and `k` further empty lines -/
def docTailG : List (Nat × EForm ap) → Str
  | [] => []
  | (k, e) :: es => '\n' :: (List.replicate k '\n' ++ '\n' :: (e.text ++ docTailG es))

def docTextG (e : EForm ap) (es : List (Nat × EForm ap)) : Str := e.text ++ docTailG es

theorem docTailGT_zero : ∀ es : List (Nat × EForm ap), docTailGT 0 es = docTailG es
  | [] => rfl
  | (k, e) :: r => by simp [docTailGT, docTailG, docTailGT_zero r]

/-- **blank lines between elements are inert**: a first element and any number of further elements, each after any
    positive number of empty lines, are read as exactly their blueprints, in order. -/
theorem parseDoc_elems_gaps (e : EForm ap) (r : List (Nat × EForm ap)) :
    ∃ c', parseDoc ap (docTextG e r) = .ok (e.elem :: r.map (·.2.elem)) c' := by
  have := parseDoc_elems_gaps_end 0 e r
  rwa [docTextGT, docTailGT_zero] at this

theorem docTextG_zero (e : EForm ap) (r : List (EForm ap)) : docTextG e (r.map fun x => (0, x)) = docTextE (e :: r) := by
  simp [docTextG, docTextE, ← docTailGT_zero, docTailGT_zeroE]

end C02
end PyDBML
