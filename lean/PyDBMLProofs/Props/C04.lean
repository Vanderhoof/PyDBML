/-
C04 — every relationship becomes exactly one correctly directed FOREIGN KEY in SQL.
(structure of the model's rendering: where each reference is rendered, and in which direction)
-/
import PyDBMLModel
namespace PyDBML
namespace C04
open Sql

/-- the table that holds the key: the left-hand table for `>` and `-`, the right-hand one for `<` -/
def keyHolder (r : Ref) : Nat :=
  match r.kind with
  | .oneToMany => r.t2
  | _ => r.t1

/-- direction: `>` and `-` put the foreign key on the left columns referencing the right ones … -/
theorem direction_left (r : Ref) (h : r.kind = .manyToOne ∨ r.kind = .oneToOne) :
    refSides r = ((r.t1, r.col1), (r.t2, r.col2)) := by
  rcases h with h | h <;> simp [refSides, h]

/-- … `<` puts it on the right columns referencing the left ones; column order is kept on both sides -/
theorem direction_right (r : Ref) (h : r.kind = .oneToMany) :
    refSides r = ((r.t2, r.col2), (r.t1, r.col1)) := by
  simp [refSides, h]

theorem source_is_keyHolder (r : Ref) (h : r.kind ≠ .manyToMany) : (refSides r).1.1 = keyHolder r := by
  cases hk : r.kind <;> simp_all [refSides, keyHolder]

/-- `constraintText` by definition: `CONSTRAINT "name" ` for a non-empty name, else nothing -/
theorem constraint_iff_name (r : Ref) :
    constraintText r = (if truthy r.name then lit "CONSTRAINT \"" ++ r.name.getD [] ++ lit "\" " else []) := rfl

/-- `onClauses` by definition: an ON UPDATE / ON DELETE clause (upper-cased) for each action that is set -/
theorem actions_iff_set (r : Ref) :
    onClauses r =
      (if truthy r.onUpdate then lit " ON UPDATE " ++ upperAscii (r.onUpdate.getD []) else [])
      ++ (if truthy r.onDelete then lit " ON DELETE " ++ upperAscii (r.onDelete.getD []) else []) := rfl

/-- The inline references of a non-abstract table at position `ti` are those whose key holder is `ti` … -/
theorem inline_site (db : Db) (ti : Nat) (t : Table) (ht : t.abstract = false) (r : Ref) :
    r ∈ inlineRefsFor db ti t ↔ r ∈ db.refs ∧ r.inline = true ∧ r.kind ≠ .manyToMany ∧ keyHolder r = ti := by
  unfold inlineRefsFor
  simp only [ht, Bool.false_eq_true, ↓reduceIte, List.mem_filter]
  constructor
  · rintro ⟨hm, hc⟩
    cases hk : r.kind <;> simp_all [keyHolder]
  · rintro ⟨hm, hi, hk, hh⟩
    refine ⟨hm, ?_⟩
    cases hk' : r.kind <;> simp_all [keyHolder]

/-- … each as many times as it is in the database, none for another position … -/
theorem inline_count (db : Db) (ti : Nat) (t : Table) (ht : t.abstract = false) (r : Ref)
    (hi : r.inline = true) (hk : r.kind ≠ .manyToMany) :
    (inlineRefsFor db ti t).count r = if keyHolder r = ti then db.refs.count r else 0 := by
  by_cases hh : keyHolder r = ti
  · simp only [hh, ↓reduceIte]
    unfold inlineRefsFor
    simp only [ht, Bool.false_eq_true, ↓reduceIte]
    apply List.count_filter
    cases hk' : r.kind <;> simp_all [keyHolder]
  · simp only [hh, ↓reduceIte]
    rw [List.count_eq_zero]
    intro hm
    exact hh ((inline_site db ti t ht r).mp hm).2.2.2

/-- … and never also as an ALTER TABLE statement; a non-inline reference is rendered at top level
    (ALTER TABLE / join table) exactly as many times as it is in the database and in no CREATE TABLE. -/
theorem never_both (db : Db) (r : Ref) :
    (r.inline = true → r ∉ db.refs.filter (!·.inline))
    ∧ (r.inline = false → (db.refs.filter (!·.inline)).count r = db.refs.count r
        ∧ ∀ ti t, r ∉ inlineRefsFor db ti t) := by
  refine ⟨?_, ?_⟩
  · intro hi hm
    simp [List.mem_filter, hi] at hm
  · intro hi
    refine ⟨?_, ?_⟩
    · apply List.count_filter
      simp [hi]
    · intro ti t hm
      unfold inlineRefsFor at hm
      split at hm
      · simp at hm
      · simp [List.mem_filter, hi] at hm

theorem m2m_never_inline (r : Ref) (h : r.kind = .manyToMany) : r.inline = false := by
  simp [Ref.inline, h]

end C04
end PyDBML
