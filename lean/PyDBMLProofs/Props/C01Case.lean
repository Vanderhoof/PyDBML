/-
C01 — "the result depends only on what is declared, not on how it is written": spelling variants of elements.
Any sequence of element forms (`EForm`) that declare the same blueprints as the elements of a covered document is parsed to
the database that document declares, so every `EForm` with the same `elem` is a proved spelling variant.  Instances: the
six keywords in any mixture of upper and lower case, names bare or in double quotes.
-/
import PyDBMLProofs.Props.C01LayoutDoc
namespace PyDBML
namespace C02
open Lex Grammar Build

variable {σ : Type}

def caseVariants : Str → List Str
  | [] => [[]]
  | c :: r => (caseVariants r).flatMap fun v => [asciiLower c :: v, asciiUpper c :: v]

/-- both cases of `c` match the keyword letter `p` caselessly, are ASCII and none of the characters the grammar treats
    specially, and begin none of `others` -/
def LetterOK (others : List Char) (p c : Char) : Bool :=
  [asciiLower c, asciiUpper c].all fun k =>
    pyUpper1 p == pyUpper1 k && (k != '\t' && (!isWs k && k != '\n' && k != '/' && decide (k.toNat < 128)
      && others.all (fun o => !(pyUpper1 o == pyUpper1 k))))

/-- `w0` spells the keyword `w` letter by letter -/
def SpellsKw (others : List Char) (w w0 : Str) : Bool :=
  match w, w0 with
  | p :: ps, c :: r => ps.length == r.length && LetterOK others p c && (ps.zip r).all fun pc => LetterOK [] pc.1 pc.2
  | _, _ => false

theorem mem_caseVariants_cons (c : Char) (r kw : Str) (h : kw ∈ caseVariants (c :: r)) :
    ∃ k v, kw = k :: v ∧ (k = asciiLower c ∨ k = asciiUpper c) ∧ v ∈ caseVariants r := by
  simp only [caseVariants, List.mem_flatMap, List.mem_cons, List.mem_nil_iff, or_false] at h
  obtain ⟨v, hv, rfl | rfl⟩ := h
  · exact ⟨_, v, rfl, Or.inl rfl, hv⟩
  · exact ⟨_, v, rfl, Or.inr rfl, hv⟩

theorem mem_caseVariants_of : ∀ (w kw : Str), kw.length = w.length →
    (∀ p ∈ kw.zip w, p.1 = asciiLower p.2 ∨ p.1 = asciiUpper p.2) → kw ∈ caseVariants w
  | [], [], _, _ => by simp [caseVariants]
  | c :: r, k :: v, hl, h => by
    simp only [caseVariants, List.mem_flatMap, List.mem_cons, List.mem_nil_iff, or_false]
    refine ⟨v, mem_caseVariants_of r v (by simpa using hl) (fun p hp => h p (by simp [hp])), ?_⟩
    have e : k = asciiLower c ∨ k = asciiUpper c := h (k, c) (by simp)
    rcases e with rfl | rfl <;> simp

theorem caseVariants_length : ∀ w : Str, (caseVariants w).length = 2 ^ w.length
  | [] => rfl
  | c :: r => by
    have h2 : ∀ l : List Str, (l.flatMap fun v => [asciiLower c :: v, asciiUpper c :: v]).length = 2 * l.length := by
      intro l
      induction l with
      | nil => rfl
      | cons a l ih => simp only [List.flatMap_cons, List.length_append, ih, List.length_cons, List.length_nil]; omega
    rw [caseVariants, h2, caseVariants_length r, List.length_cons, Nat.pow_succ, Nat.mul_comm]

theorem letterOK_elim (others : List Char) (p c k : Char) (h : LetterOK others p c = true)
    (hk : k = asciiLower c ∨ k = asciiUpper c) :
    (pyUpper1 p == pyUpper1 k) = true ∧ (k != '\t') = true ∧
      (!isWs k && k != '\n' && k != '/' && decide (k.toNat < 128) && others.all (fun o => !(pyUpper1 o == pyUpper1 k))) = true := by
  have hm : k ∈ [asciiLower c, asciiUpper c] := by rcases hk with rfl | rfl <;> simp
  have h1 := Bool.and_eq_true_iff.mp (List.all_eq_true.mp h k hm)
  exact ⟨h1.1, Bool.and_eq_true_iff.mp h1.2⟩

theorem caseVariants_tail : ∀ (w0 w : Str), w.length = w0.length → (w.zip w0).all (fun pc => LetterOK [] pc.1 pc.2) = true →
    ∀ kw ∈ caseVariants w0, kw.length = w.length ∧ startsWithCaseless kw w = true ∧ kw.all (fun c => c != '\t') = true
  | [], [], _, _, kw, hkw => by simp [caseVariants] at hkw; subst hkw; simp [startsWithCaseless]
  | c :: r, p :: ps, hl, h, kw, hkw => by
    obtain ⟨k, v, rfl, hk, hv⟩ := mem_caseVariants_cons c r kw hkw
    simp only [List.zip_cons_cons, List.all_cons, Bool.and_eq_true] at h
    obtain ⟨h1, h2, h3⟩ := caseVariants_tail r ps (by simpa using hl) h.2 v hv
    obtain ⟨e1, e2, _⟩ := letterOK_elim [] p c k h.1 hk
    exact ⟨by simp [h1], by simp [startsWithCaseless, e1, h2], by simp [e2, h3]⟩

/-- every spelling of a keyword has what the proofs need of it: the letters of the word are checked one by one (`SpellsKw`,
    by evaluation), not its 2^n spellings -/
theorem caseVariants_kwFactsG (others : List Char) (w w0 : Str) (h : SpellsKw others w w0 = true) :
    ∀ kw ∈ caseVariants w0, KwFactsG w others kw = true := by
  intro kw hkw
  match w, w0, h with
  | p :: ps, c :: r, h =>
    simp only [SpellsKw, Bool.and_eq_true, beq_iff_eq] at h
    obtain ⟨k, v, rfl, hk, hv⟩ := mem_caseVariants_cons c r kw hkw
    obtain ⟨h1, h2, h3⟩ := caseVariants_tail r ps h.1.1 h.2 v hv
    obtain ⟨e1, e2, e3⟩ := letterOK_elim others p c k h.1.2 hk
    simp only [KwFactsG, List.length_cons, startsWithCaseless, List.all_cons, h1, h2, h3, e1, e2, e3, beq_self_eq_true,
      Bool.and_self]

def kwTable : List Str := caseVariants (lit "table")

/-- `KwFactsG (lit "table") []` written out (`kwFacts_eq`): the statements about tables here are phrased with it, as those
    about enums with `KwFactsE`; the other keywords take `KwFactsG` itself -/
def KwFacts (kw : Str) : Bool :=
  kw.length == 5 && startsWithCaseless kw (lit "table") && kw.all (fun c => c != '\t')
    && (match kw with
        | k :: _ => !isWs k && k != '\n' && k != '/' && decide (k.toNat < 128)
        | [] => false)

theorem kwFacts_eq (kw : Str) : KwFacts kw = KwFactsG (lit "table") [] kw := by
  cases kw <;> simp [KwFacts, KwFactsG, show (lit "table").length = 5 from rfl]

theorem kwTable_facts : ∀ kw ∈ kwTable, KwFacts kw = true := fun kw hkw =>
  (kwFacts_eq kw).trans (caseVariants_kwFactsG [] _ _ (by decide +kernel) kw hkw)

def ColForm.afterKw (F : ColForm σ) (t : FTab σ) (nm : Str) : Str :=
  ' ' :: (nm ++ ' ' :: '{' :: '\n' :: (F.text t.cols ++ (noteBlock t.note ++ ['}'])))

theorem ColForm.afterKw_no_tab (F : ColForm σ) (ap : Bool) (t : FTab σ) (nm : Str) (ht : F.specOK ap t) (hnm : ∀ c ∈ nm, c ≠ '\t') :
    ∀ c ∈ F.afterKw t nm, c ≠ '\t' := by
  simp only [ColForm.afterKw, List.forall_mem_cons, List.forall_mem_append, List.mem_nil_iff, false_imp_iff, implies_true, ne_eq, Char.reduceEq,
      not_false_eq_true, true_and, and_true]
  exact ⟨hnm, F.text_no_tab ap t.cols ht.2.1, noteBlock_no_tab t.note ht.2.2.2.2.1⟩

def ColForm.tableEK (F : ColForm σ) (ap : Bool) (t : FTab σ) (kw nm : Str) (hkw : KwFacts kw = true) (hnm : Spells nm t.name)
    (ht : F.specOK ap t) : EForm ap where
  pre := t.comment
  head := kw.headD 'T'
  body := kw.tail ++ F.afterKw t nm
  elem := F.mkElem t
  headOK := (kwG_head ((kwFacts_eq kw).symm.trans hkw) 'T').1
  headAscii := (kwG_head ((kwFacts_eq kw).symm.trans hkw) 'T').2
  preOK := ht.2.2.2.1
  noTab := by
    intro c hc
    exact kwG_no_tab ((kwFacts_eq kw).symm.trans hkw) 'T' (F.afterKw_no_tab ap t nm ht hnm.1) c hc
  parse := by
    intro c c0 post hb hr0 hp0 hpv0 hends
    have hkw := (kwFacts_eq kw).symm.trans hkw
    obtain ⟨_, _, _, k, ks, rfl, _⟩ := kwFactsG_elim _ _ _ hkw
    have h := run_element_table (ap := ap) (F.run_tableRule ap (k :: ks) nm t.name t.cols t.note post (cmList t.comment) hkw hnm
      ht.2.1 ht.2.2.1 ht.2.2.2.2 (.of_eq hb ⟨⟨by rw [hr0]; simp [ColForm.tableTextK, ColForm.afterKw], hp0⟩, hpv0⟩)
      (run_endRule_after hends)) c rfl
    rw [joinBefore_cmList] at h
    obtain ⟨c9, h⟩ := h
    exact ⟨c9, h⟩

theorem ColForm.tableEK_text (F : ColForm σ) (ap : Bool) (t : FTab σ) (kw nm : Str) (hkw : KwFacts kw = true) (hnm : Spells nm t.name)
    (ht : F.specOK ap t) : (F.tableEK ap t kw nm hkw hnm ht).text = commentText t.comment ++ kw ++ F.afterKw t nm := by
  obtain ⟨_, _, _, k, ks, rfl, _⟩ := kwFactsG_elim _ _ _ ((kwFacts_eq kw).symm.trans hkw)
  simp [EForm.text, ColForm.tableEK]

theorem ColForm.tableEK_elem (F : ColForm σ) (ap : Bool) (t : FTab σ) (kw nm : Str) (hkw : KwFacts kw = true) (hnm : Spells nm t.name)
    (ht : F.specOK ap t) : (F.tableEK ap t kw nm hkw hnm ht).elem = (F.tableE ap t ht).elem := rfl

/-- **C01: the result depends only on what is declared.**  Any sequence of element forms declaring, one by one, the same
    blueprints as the elements of a covered document - in whatever spelling, with any positive number of empty lines between them
    (`gaps`: the further ones) and `m` line breaks at the end - is parsed to exactly the database the document declares. -/
theorem document_faithful_variants (F : ColForm σ) (ap : Bool) (d : DocSpec σ) (h : DocOK F ap d) (gaps : List Nat) (m : Nat)
    (e' : EForm ap) (r' : List (EForm ap)) (hv : (e' :: r').map (·.elem) = (d.forms F ap h).map (·.elem)) :
    Build.parse ap (docTextGT m e' ((gaps ++ List.replicate r'.length 0).zip r')) = .ok (d.db F ap) :=
  d.parse_forms F ap h gaps m e' r' (by rw [← d.forms_elems F ap h, ← hv]; rfl)

/-- `EForm.VariantOf e e'` (mind the order: in dot notation `e.VariantOf e'`): `e'` is a spelling variant of `e`, it declares
    the same blueprint -/
def EForm.VariantOf {ap : Bool} (e e' : EForm ap) : Prop := e'.elem = e.elem

inductive AllVariants {ap : Bool} : List (EForm ap) → List (EForm ap) → Prop
  | nil : AllVariants [] []
  | cons {e e' : EForm ap} {es es' : List (EForm ap)} (h : e.VariantOf e') (t : AllVariants es es') : AllVariants (e :: es) (e' :: es')

theorem variants_elems {ap : Bool} : ∀ (es es' : List (EForm ap)), AllVariants es es' →
    es'.map (·.elem) = es.map (·.elem) := by
  intro es es' h
  induction h with
  | nil => rfl
  | cons hab _ ih => simp only [List.map_cons, ih]; rw [show _ = _ from hab]

/-- **C01, element by element**: replace every element of a covered document by any of its spelling variants, under any
    spacing: the parse is the database the document declares. -/
theorem document_faithful_each_variant (F : ColForm σ) (ap : Bool) (d : DocSpec σ) (h : DocOK F ap d) (gaps : List Nat) (m : Nat)
    (e' : EForm ap) (r' : List (EForm ap)) (hv : AllVariants (d.forms F ap h) (e' :: r')) :
    Build.parse ap (docTextGT m e' ((gaps ++ List.replicate r'.length 0).zip r')) = .ok (d.db F ap) :=
  document_faithful_variants F ap d h gaps m e' r' (variants_elems _ _ hv)

def kwEnum : List Str := caseVariants (lit "enum")

theorem kwEnum_facts : ∀ kw ∈ kwEnum, KwFactsE kw = true := fun kw hkw =>
  (kwFactsE_eq kw).trans (caseVariants_kwFactsG ['t', 'r'] _ _ (by decide +kernel) kw hkw)

def enumEK (ap : Bool) (e : ESpecN) (kw nm : Str) (hkw : KwFactsE kw = true) (hnm : SpellsE nm e.1) (he : ESpecNOK e) : EForm ap where
  pre := none
  head := kw.headD 'E'
  body := kw.tail ++ ' ' :: (nm ++ ' ' :: '{' :: (itemsTextN e.2 ++ ['\n', '}']))
  elem := mkEnumElemN e
  headOK := (kwG_head ((kwFactsE_eq kw).symm.trans hkw) 'E').1
  headAscii := (kwG_head ((kwFactsE_eq kw).symm.trans hkw) 'E').2
  preOK := trivial
  noTab := by
    intro c hc
    refine kwG_no_tab ((kwFactsE_eq kw).symm.trans hkw) 'E' ?_ c hc
    simp only [List.forall_mem_cons, List.forall_mem_append, List.mem_nil_iff, false_imp_iff, implies_true, ne_eq, Char.reduceEq,
      not_false_eq_true, true_and, and_true]
    exact ⟨hnm.1, itemsTextN_no_tab e.2 he.2.1⟩
  parse := by
    intro c c0 post hb hr0 hp0 _ hends
    obtain ⟨c9, h⟩ := enumEN_parse ap e kw nm ((kwFactsE_eq kw).symm.trans hkw) hnm he.2.1 he.2.2 'E' c c0 post hb hr0 hp0 hends
    exact ⟨c9, h⟩

theorem enumEK_elem (ap : Bool) (e : ESpecN) (kw nm : Str) (hkw : KwFactsE kw = true) (hnm : SpellsE nm e.1) (he : ESpecNOK e) :
    (enumEK ap e kw nm hkw hnm he).elem = (enumEN ap e he).elem := rfl

theorem enumEK_text (ap : Bool) (e : ESpecN) (kw nm : Str) (hkw : KwFactsE kw = true) (hnm : SpellsE nm e.1) (he : ESpecNOK e) :
    (enumEK ap e kw nm hkw hnm he).text = enumTextK kw nm e.2 := by
  obtain ⟨_, _, _, k, ks, rfl, _⟩ := kwFactsG_elim _ _ kw ((kwFactsE_eq kw).symm.trans hkw)
  simp [EForm.text, enumEK, commentText, enumTextK]

example : lit "ENUM" ∈ kwEnum ∧ kwEnum.length = 16 := by
  unfold kwEnum
  repeat rw [lit_eq rfl]
  exact ⟨mem_caseVariants_of _ _ rfl (by decide), caseVariants_length _⟩

def kwRef : List Str := caseVariants (lit "ref")
def kwProject : List Str := caseVariants (lit "project")
def kwNote : List Str := caseVariants (lit "note")

theorem kwRef_facts : ∀ kw ∈ kwRef, KwFactsG (lit "ref") ['t'] kw = true :=
  caseVariants_kwFactsG _ _ _ (by decide +kernel)
theorem kwProject_facts : ∀ kw ∈ kwProject, KwFactsG (lit "project") ['t', 'r', 'e'] kw = true :=
  caseVariants_kwFactsG _ _ _ (by decide +kernel)
theorem kwNote_facts : ∀ kw ∈ kwNote, KwFactsG (lit "note") ['t', 'r', 'e', 'p'] kw = true :=
  caseVariants_kwFactsG _ _ _ (by decide +kernel)

def refEK (ap : Bool) (r : RText) (kw : Str) (hkw : KwFactsG (lit "ref") ['t'] kw = true) (hok : RTextOK r) : EForm ap where
  pre := none
  head := kw.headD 'R'
  body := kw.tail ++ refAfterKw r []
  elem := mkRefElem r
  headOK := (kwG_head hkw 'R').1
  headAscii := (kwG_head hkw 'R').2
  preOK := trivial
  noTab := by
    intro c hc
    exact kwG_no_tab hkw 'R' (refAfterKw_no_tab r [] hok (by simp)) c hc
  parse := by
    intro c c0 post hb hr0 hp0 _ hends
    obtain ⟨c9, h⟩ := refE_parse ap r hok kw hkw 'R' c c0 post hb hr0 hp0 hends
    exact ⟨c9, h⟩

theorem refEK_elem (ap : Bool) (r : RText) (kw : Str) (hkw : KwFactsG (lit "ref") ['t'] kw = true) (hok : RTextOK r) :
    (refEK ap r kw hkw hok).elem = (refE ap r hok).elem := rfl

def projectEK (ap : Bool) (n : Str) (items : List (Str × Str)) (kw nm : Str)
    (hkw : KwFactsG (lit "project") ['t', 'r', 'e'] kw = true) (hnm : Spells nm n) (h : ProjectOK n items) : EForm ap where
  pre := none
  head := kw.headD 'P'
  body := kw.tail ++ ' ' :: (nm ++ ' ' :: '{' :: '\n' :: (fieldLines items ++ ['}']))
  elem := Bp.Elem.project (projectBpOf n items)
  headOK := (kwG_head hkw 'P').1
  headAscii := (kwG_head hkw 'P').2
  preOK := trivial
  noTab := by
    intro c hc
    refine kwG_no_tab hkw 'P' ?_ c hc
    simp only [List.forall_mem_cons, List.forall_mem_append, List.mem_nil_iff, false_imp_iff, implies_true, ne_eq, Char.reduceEq,
      not_false_eq_true, true_and, and_true]
    exact ⟨hnm.1, fieldLines_no_tab items h.keys h.values⟩
  parse := by
    intro c c0 post hb hr0 hp0 _ hends
    obtain ⟨c9, h'⟩ := projectE_parse ap n items kw nm hkw hnm h 'P' c c0 post hb hr0 hp0 hends
    exact ⟨c9, h'⟩

theorem projectEK_elem (ap : Bool) (n : Str) (items : List (Str × Str)) (kw nm : Str)
    (hkw : KwFactsG (lit "project") ['t', 'r', 'e'] kw = true) (hnm : Spells nm n) (h : ProjectOK n items) :
    (projectEK ap n items kw nm hkw hnm h).elem = (projectE ap n items h).elem := rfl

def stickyEK (ap : Bool) (s : Sticky) (kw nm : Str) (hkw : KwFactsG (lit "note") ['t', 'r', 'e', 'p'] kw = true)
    (hnm : Spells nm s.name) (hs : StickyOK s) : EForm ap where
  pre := none
  head := kw.headD 'N'
  body := kw.tail ++ ' ' :: (nm ++ tail1 s.text)
  elem := mkStickyElem s
  headOK := (kwG_head hkw 'N').1
  headAscii := (kwG_head hkw 'N').2
  preOK := trivial
  noTab := by
    intro c hc
    refine kwG_no_tab hkw 'N' ?_ c hc
    have := stickyText_no_tab s.name s.text hs.2.1 hs.2.2.1
    simp only [stickyText, tail1, List.forall_mem_cons, List.forall_mem_append, ne_eq, Char.reduceEq, not_false_eq_true, true_and] at this ⊢
    exact ⟨hnm.1, this.2⟩
  parse := by
    intro c c0 post hb hr0 hp0 _ hends
    obtain ⟨c9, h⟩ := stickyE_parse ap kw nm s.name s.text hkw hnm hs.2.2.1 hs.2.2.2.1 'N' c c0 post hb hr0 hp0 hends
    exact ⟨c9, h⟩

theorem stickyEK_elem (ap : Bool) (s : Sticky) (kw nm : Str) (hkw : KwFactsG (lit "note") ['t', 'r', 'e', 'p'] kw = true)
    (hnm : Spells nm s.name) (hs : StickyOK s) : (stickyEK ap s kw nm hkw hnm hs).elem = (stickyE ap s hs).elem := rfl

def kwGroup : List Str := caseVariants (lit "tablegroup")

theorem kwGroup_facts : ∀ kw ∈ kwGroup, (KwFactsG (lit "TableGroup") ['r', 'e'] kw && KwGroupShape kw) = true := by
  intro kw hkw
  rw [caseVariants_kwFactsG _ _ _ (by decide +kernel) kw hkw, Bool.true_and]
  -- the sixth letter is one of the two cases of `g`
  rw [kwGroup, lit_eq rfl] at hkw
  obtain ⟨_, _, rfl, _, hkw⟩ := mem_caseVariants_cons _ _ _ hkw
  obtain ⟨_, _, rfl, _, hkw⟩ := mem_caseVariants_cons _ _ _ hkw
  obtain ⟨_, _, rfl, _, hkw⟩ := mem_caseVariants_cons _ _ _ hkw
  obtain ⟨_, _, rfl, _, hkw⟩ := mem_caseVariants_cons _ _ _ hkw
  obtain ⟨_, _, rfl, _, hkw⟩ := mem_caseVariants_cons _ _ _ hkw
  obtain ⟨k, _, rfl, hk, _⟩ := mem_caseVariants_cons _ _ _ hkw
  rcases hk with rfl | rfl <;> rfl

def groupEK (ap : Bool) (g : Str) (ns : List Str) (kw nm : Str)
    (hkw : (KwFactsG (lit "TableGroup") ['r', 'e'] kw && KwGroupShape kw) = true) (hnm : Spells nm g) (hg : NameOK g)
    (hns : ∀ n ∈ ns, NameOK n) : EForm ap where
  pre := none
  head := kw.headD 'T'
  body := kw.tail ++ ' ' :: (nm ++ ' ' :: '{' :: '\n' :: (memberLines ns ++ ['}']))
  elem := Bp.Elem.group (groupBpOf g ns)
  headOK := (kwG_head (Bool.and_eq_true_iff.mp hkw).1 'T').1
  headAscii := (kwG_head (Bool.and_eq_true_iff.mp hkw).1 'T').2
  preOK := trivial
  noTab := by
    intro c hc
    refine kwG_no_tab (Bool.and_eq_true_iff.mp hkw).1 'T' ?_ c hc
    have hm := (groupE ap g ns hg hns).noTab
    simp only [groupE, groupText, List.tail_cons, List.forall_mem_cons, List.forall_mem_append, List.mem_nil_iff, false_imp_iff, implies_true, ne_eq, Char.reduceEq,
      not_false_eq_true, true_and, and_true] at hm ⊢
    exact ⟨hnm.1, hm.2⟩
  parse := by
    intro c c0 post hb hr0 hp0 _ hends
    obtain ⟨c9, h⟩ := groupE_parse ap g ns kw nm hkw hnm hns 'T' c c0 post hb hr0 hp0 hends
    exact ⟨c9, h⟩

theorem groupEK_elem (ap : Bool) (g : Str) (ns : List Str) (kw nm : Str)
    (hkw : (KwFactsG (lit "TableGroup") ['r', 'e'] kw && KwGroupShape kw) = true) (hnm : Spells nm g) (hg : NameOK g)
    (hns : ∀ n ∈ ns, NameOK n) : (groupEK ap g ns kw nm hkw hnm hg hns).elem = (groupE ap g ns hg hns).elem := rfl

example : lit "TABLEGROUP" ∈ kwGroup ∧ lit "tablegroup" ∈ kwGroup ∧ kwGroup.length = 1024 := by
  unfold kwGroup
  repeat rw [lit_eq rfl]
  exact ⟨mem_caseVariants_of _ _ rfl (by decide), mem_caseVariants_of _ _ rfl (by decide), caseVariants_length _⟩

example : lit "REF" ∈ kwRef ∧ lit "project" ∈ kwProject ∧ lit "NOTE" ∈ kwNote := by
  unfold kwRef kwProject kwNote
  repeat rw [lit_eq rfl]
  exact ⟨mem_caseVariants_of _ _ rfl (by decide), mem_caseVariants_of _ _ rfl (by decide), mem_caseVariants_of _ _ rfl (by decide)⟩

section
/- In the two statements below Lean meets `KwFacts ?a =?= KwFacts ?b` (and the like for `KwFactsE`) while the argument of
   the `pmap`ped function is still unknown, and unfolds both sides to no avail, at a hundred times the cost of the rest. -/
attribute [local irreducible] KwFacts KwFactsE

/-- **keyword case of `Enum` and `Table` and the spelling of their names are inert**: each enum and each table written with
    its own spelling `p.2.1` of its keyword and `p.2.2` of its name, under any spacing. -/
theorem enums_tables_spelling_inert (F : ColForm σ) (ap : Bool) (es : List (ESpecN × Str × Str)) (ps : List (FTab σ × Str × Str))
    (h : DocOK F ap { enums := es.map (·.1), tables := ps.map (·.1) })
    (hke : ∀ p ∈ es, p.2.1 ∈ kwEnum) (hne : ∀ p ∈ es, SpellsE p.2.2 p.1.1) (hkw : ∀ p ∈ ps, p.2.1 ∈ kwTable) (hnm : ∀ p ∈ ps, Spells p.2.2 p.1.name)
    (gaps : List Nat) (m : Nat) (e' : EForm ap) (r' : List (EForm ap))
    (hforms : e' :: r' =
      es.pmap (fun p (hp : ESpecNOK p.1 ∧ p.2.1 ∈ kwEnum ∧ SpellsE p.2.2 p.1.1) =>
          enumEK ap p.1 p.2.1 p.2.2 (kwEnum_facts p.2.1 hp.2.1) hp.2.2 hp.1)
        (fun p hp => ⟨h.enums p.1 (List.mem_map_of_mem hp), hke p hp, hne p hp⟩)
      ++ ps.pmap (fun p (hp : F.specOK ap p.1 ∧ p.2.1 ∈ kwTable ∧ Spells p.2.2 p.1.name) =>
        F.tableEK ap p.1 p.2.1 p.2.2 (kwTable_facts p.2.1 hp.2.1) hp.2.2 hp.1)
        (fun p hp => ⟨h.tables p.1 (List.mem_map_of_mem hp), hkw p hp, hnm p hp⟩)) :
    Build.parse ap (docTextGT m e' ((gaps ++ List.replicate r'.length 0).zip r'))
      = .ok (DocSpec.db F ap ({ enums := es.map (·.1), tables := ps.map (·.1) } : DocSpec σ)) := by
  apply document_faithful_variants F ap { enums := es.map (·.1), tables := ps.map (·.1) } h gaps m e' r'
  rw [hforms, DocSpec.forms_elems, List.map_append,
    map_pmap_const (fun (p : ESpecN × Str × Str) (hp : ESpecNOK p.1 ∧ p.2.1 ∈ kwEnum ∧ SpellsE p.2.2 p.1.1) =>
      enumEK ap p.1 p.2.1 p.2.2 (kwEnum_facts p.2.1 hp.2.1) hp.2.2 hp.1) (·.elem) (fun p => mkEnumElemN p.1) (fun _ _ => rfl),
    map_pmap_const (fun (p : FTab σ × Str × Str) (hp : F.specOK ap p.1 ∧ p.2.1 ∈ kwTable ∧ Spells p.2.2 p.1.name) =>
      F.tableEK ap p.1 p.2.1 p.2.2 (kwTable_facts p.2.1 hp.2.1) hp.2.2 hp.1) (·.elem) (fun p => F.mkElem p.1) (fun _ _ => rfl)]
  simp [DocSpec.elems, Function.comp_def]

/-- **keyword case and the spelling of table names are inert**: `p.2.1` is any of the 32 mixtures of upper and lower case, `p.2.2` the name in
    double quotes, or bare when it consists of name characters -/
theorem tables_spelling_inert (F : ColForm σ) (ap : Bool) (ps : List (FTab σ × Str × Str))
    (h : DocOK F ap { tables := ps.map (·.1) }) (hkw : ∀ p ∈ ps, p.2.1 ∈ kwTable) (hnm : ∀ p ∈ ps, Spells p.2.2 p.1.name)
    (gaps : List Nat) (m : Nat) (e' : EForm ap) (r' : List (EForm ap))
    (hforms : e' :: r' = ps.pmap (fun p (hp : F.specOK ap p.1 ∧ p.2.1 ∈ kwTable ∧ Spells p.2.2 p.1.name) =>
        F.tableEK ap p.1 p.2.1 p.2.2 (kwTable_facts p.2.1 hp.2.1) hp.2.2 hp.1)
      (fun p hp => ⟨h.tables p.1 (List.mem_map_of_mem hp), hkw p hp, hnm p hp⟩)) :
    Build.parse ap (docTextGT m e' ((gaps ++ List.replicate r'.length 0).zip r'))
      = .ok (DocSpec.db F ap ({ tables := ps.map (·.1) } : DocSpec σ)) :=
  enums_tables_spelling_inert F ap [] ps h (by simp) (by simp) hkw hnm gaps m e' r' hforms

end

/-- non-vacuity: `TaBLe` is a spelling of the keyword -/
example : lit "TaBLe" ∈ kwTable ∧ kwTable.length = 32 := by
  unfold kwTable
  repeat rw [lit_eq rfl]
  exact ⟨mem_caseVariants_of _ _ rfl (by decide), caseVariants_length _⟩

example : lit "TABLE" ++ flagForm.afterKw { name := lit "a", cols := [{ name := lit "id", type := lit "int", pk := true }] } (lit "a")
    = lit "TABLE a {\n    \"id\" int [pk]\n}" := by
  repeat rw [lit_eq rfl]
  decide +kernel

example : Spells (lit "users") (lit "users") := spells_bare _ (by decide) (by decide)

end C02
end PyDBML
