/-
C01 — whole documents under any spacing: the document of `document_roundtrip` (C02Document.lean), written with any positive
number of empty lines between its elements and any number of line breaks at its end, is parsed to the same database.
-/
import PyDBMLProofs.Props.C02Document
import PyDBMLProofs.Props.C01LayoutEnd
namespace PyDBML
namespace C02
open Lex Grammar Build

variable {σ : Type}

theorem DocSpec.parse_forms (F : ColForm σ) (ap : Bool) (d : DocSpec σ) (h : DocOK F ap d) (gaps : List Nat) (m : Nat)
    (e' : EForm ap) (r' : List (EForm ap)) (hv : e'.elem :: r'.map (·.elem) = d.elems F) :
    Build.parse ap (docTextGT m e' ((gaps ++ List.replicate r'.length 0).zip r')) = .ok (d.db F ap) := by
  obtain ⟨c', hp⟩ := parseDoc_elems_gaps_end m e' ((gaps ++ List.replicate r'.length 0).zip r')
  have hsnd : ((gaps ++ List.replicate r'.length 0).zip r').map (fun (x : Nat × EForm ap) => x.2.elem) = r'.map (·.elem) := by
    have : ((gaps ++ List.replicate r'.length 0).zip r').map Prod.snd = r' := List.map_snd_zip (by simp)
    conv => rhs; rw [← this, List.map_map]
    rfl
  rw [hsnd, hv] at hp
  unfold Build.parse
  have hbom : removeBom (docTextGT m e' ((gaps ++ List.replicate r'.length 0).zip r'))
      = docTextGT m e' ((gaps ++ List.replicate r'.length 0).zip r') := e'.text_removeBom _
  rw [hbom, hp]
  simp only [d.build F ap h]

/-- **C01 for whole documents, whatever the spacing between elements**: the elements of a covered document (a project, enums,
    tables with their columns and settings, inline and standalone references, table groups, sticky notes), written in
    source order with `gaps[i]` further empty lines before element `i + 1` (none where the list ends) and `m` line breaks
    after the last one, are parsed to exactly the database the document declares. -/
theorem document_faithful_gaps (F : ColForm σ) (ap : Bool) (d : DocSpec σ) (h : DocOK F ap d) (gaps : List Nat) (m : Nat)
    (e : EForm ap) (r : List (EForm ap)) (hf : d.forms F ap h = e :: r) :
    Build.parse ap (docTextGT m e ((gaps ++ List.replicate r.length 0).zip r)) = .ok (d.db F ap) :=
  d.parse_forms F ap h gaps m e r (by rw [← d.forms_elems F ap h, hf]; rfl)

end C02
end PyDBML
