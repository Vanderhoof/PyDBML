/-
C01/C02 — sticky notes: the rule for a keyword and a name in any spelling, the element form, the round trip of one note.
-/
import PyDBMLProofs.Props.C02Doc
import PyDBMLProofs.Props.C02Spelling
namespace PyDBML
namespace C02
open Lex Grammar Build

def tail3 : Str := ['\n', '}']

def tail2 (t : Str) : Str := ' ' :: ' ' :: ' ' :: ' ' :: '\'' :: (prepareTextForDbml t ++ '\'' :: tail3)

def tail1 (t : Str) : Str := ' ' :: '{' :: '\n' :: tail2 t

def stickyText (name t : Str) : Str := 'N' :: 'o' :: 't' :: 'e' :: ' ' :: (name ++ tail1 t)

theorem renderSticky_plain (s : Sticky) (ht : Plain s.text) :
    Dbml.renderSticky s = stickyText s.name s.text := by
  rw [Dbml.renderSticky, indent4_quoteString s.text ht]
  repeat rw [lit_eq rfl]
  simp [stickyText, tail1, tail2, tail3]

theorem renderDb_sticky (ap : Bool) (s : Sticky) (ht : Plain s.text) :
    Dbml.renderDb { sticky := [s], allowProps := ap } = .ok (stickyText s.name s.text) := by
  unfold Dbml.renderDb Dbml.renderProjectList
  simp [bind, Except.bind, pure, Except.pure, joinWith, renderSticky_plain s ht]

theorem stickyText_no_tab (name t : Str) (hname : name.all isNameChar = true) (ht : Plain t) :
    ∀ c ∈ stickyText name t, c ≠ '\t' := by
  simp only [stickyText, tail1, tail2, tail3, List.forall_mem_cons, List.forall_mem_append, List.mem_nil_iff, false_imp_iff, implies_true, ne_eq, Char.reduceEq,
    not_false_eq_true, true_and, and_true]
  exact ⟨nameChars_no_tab hname, forall_mem_prepare (by decide) fun c hc => (ht c hc).2⟩

theorem run_stickyNoteRule {A Q : Cur → Prop} {others : List Char} (kw nm name t post : Str)
    (hkw : KwFactsG (lit "note") others kw = true) (hname : Spells nm name) (h1 : C13.oneLine t = true) (h3 : hasTriple t = false)
    (hb : Run cBefore [] A (At (kw ++ ' ' :: (nm ++ tail1 t ++ post)))) (hend : Run endRule () (At post) Q) :
    Run stickyNoteRule { name := name, text := t } A Q := by
  refine .bind (hb.post (B' := At (kw ++ ' ' :: (nm ++ ' ' :: '{' :: '\n' :: ' ' :: ' ' :: ' ' :: ' ' ::
      '\'' :: (prepareTextForDbml t ++ '\'' :: '\n' :: '}' :: post))))
    fun c hc => ⟨by rw [hc.1]; simp [tail1, tail2, tail3], hc.2⟩) ?_
  refine .bind (run_kwG hkw _) ?_
  refine .bind (stay_skipNl (endOK_spelt hname 1 _)) ?_
  refine .bind (hname.run 1 _) ?_
  refine .bind (stay_skipNl (endOK_at 1 '{' _ (by decide))) ?_
  refine .cut (.bind (run_lbrace 1 _) ?_)
  refine .bind (run_skipNl_nl 0 (endOK_at 4 '\'' _ (by decide))) ?_
  refine .bind (run_string 4 t _ h1 h3 (Or.inr (by simp))) ?_
  refine .bind (run_skipNl_nl 0 (endOK_at 0 '}' _ (by decide))) ?_
  refine .bind (run_rbrace 0 _) ?_
  exact .bind hend .pure

theorem kwFactsG_Note : KwFactsG (lit "note") ['t', 'r', 'e', 'p'] ['N', 'o', 't', 'e'] = true := by decide +kernel

theorem stickyNoteRule_okP (c c0 : Cur) (name t post : Str) (Q : Cur → Prop)
    (hb : cBefore c = .ok [] c0) (hc : c0.rest = stickyText name t ++ post) (hp : c0.pastEnd = false)
    (hne : name ≠ []) (hname : name.all isNameChar = true)
    (h1 : C13.oneLine t = true) (h3 : hasTriple t = false)
    (hend : ∀ c7 : Cur, c7.rest = post → c7.pastEnd = false → ∃ c9, endRule c7 = .ok () c9 ∧ Q c9) :
    ∃ c9, stickyNoteRule c = .ok { name := name, text := t } c9 ∧ Q c9 :=
  run_stickyNoteRule ['N', 'o', 't', 'e'] name name t post kwFactsG_Note (spells_bare name hne hname) h1 h3
    (.of_eq hb ⟨by rw [hc]; simp [stickyText], hp⟩) (.of_at hend) c rfl

def StickyOK (s : Sticky) : Prop :=
  s.name ≠ [] ∧ s.name.all isNameChar = true ∧ Plain s.text ∧ hasTriple s.text = false ∧ norm s.text = s.text

def mkStickyElem (s : Sticky) : Bp.Elem := Bp.Elem.sticky { name := s.name, text := s.text }

/-- the five alternatives of `element` before the sticky note fail on its first letter -/
theorem stickyE_parse (ap : Bool) (kw nm name t : Str) (hkw : KwFactsG (lit "note") ['t', 'r', 'e', 'p'] kw = true)
    (hnm : Spells nm name) (ht : Plain t) (h3 : hasTriple t = false) (d : Char) (c c0 : Cur) (post : Str)
    (hb : cBefore c = .ok (cmList none) c0) (hr0 : c0.rest = kw.headD d :: (kw.tail ++ ' ' :: (nm ++ tail1 t) ++ post))
    (hp0 : c0.pastEnd = false) (hends : EndsOK post) :
    ∃ c9, element ap c = .ok (Bp.Elem.sticky { name := name, text := t }) c9 ∧ After post c9 := by
  obtain ⟨_, _, _, k, ks, rfl, _⟩ := kwFactsG_elim _ _ _ hkw
  have hb' : Run cBefore [] (· = c) (At ((k :: ks) ++ ' ' :: (nm ++ tail1 t ++ post))) := .of_eq hb ⟨by rw [hr0]; simp, hp0⟩
  have f := kwG_rules_fail (ap := ap) hkw d hb' (fun _ h => h)
  exact run_element_sticky (f.1 (by decide)) (f.2.1 (by decide)) (f.2.2.1 (by decide)) (f.2.2.2.1 (by decide)) (f.2.2.2.2 (by decide))
    (run_stickyNoteRule _ nm name t post hkw hnm (oneLine_of_plain t ht) h3 hb' (run_endRule_after hends)) c rfl

def stickyE (ap : Bool) (s : Sticky) (hs : StickyOK s) : EForm ap where
  pre := none
  head := 'N'
  body := (stickyText s.name s.text).tail
  elem := mkStickyElem s
  headOK := by decide
  headAscii := by decide
  preOK := trivial
  noTab := by
    intro c hc
    exact stickyText_no_tab s.name s.text hs.2.1 hs.2.2.1 c hc
  parse := by
    intro c c0 post hb hr0 hp0 _ hends
    obtain ⟨c9, h⟩ := stickyE_parse ap ['N', 'o', 't', 'e'] s.name s.name s.text kwFactsG_Note (spells_bare _ hs.1 hs.2.1)
      hs.2.2.1 hs.2.2.2.1 'N' c c0 post hb hr0 hp0 hends
    exact ⟨c9, h⟩

theorem stickyE_text (ap : Bool) (s : Sticky) (hs : StickyOK s) : (stickyE ap s hs).text = stickyText s.name s.text := by
  simp [EForm.text, stickyE, commentText, stickyText]

theorem stickyNoteRule_ok (c : Cur) (name t : Str) (hc : c.rest = stickyText name t) (hp : c.pastEnd = false)
    (hne : name ≠ []) (hname : name.all isNameChar = true)
    (h1 : C13.oneLine t = true) (h3 : hasTriple t = false) :
    ∃ c', stickyNoteRule c = .ok { name := name, text := t } c' ∧ c'.rest = [] ∧ c'.pastEnd = true := by
  have hb : Run cBefore [] (At (stickyText name t)) (At (['N', 'o', 't', 'e'] ++ ' ' :: (name ++ tail1 t ++ []))) :=
    (stay_cBefore (endOK_at 0 'N' _ (by decide))).post fun c hc => ⟨by rw [hc.1]; simp, hc.2⟩
  exact run_stickyNoteRule _ name name t [] kwFactsG_Note (spells_bare name hne hname) h1 h3 hb run_endRule_eof c ⟨hc, hp⟩

/-- the one-note document.  No `norm` is asked of the text here, so the form is built on the spot from the `parse` field's
    lemma instead of `stickyE`. -/
theorem parseDoc_sticky (ap : Bool) (name t : Str) (hne : name ≠ []) (hname : name.all isNameChar = true)
    (ht : Plain t) (h3 : hasTriple t = false) :
    ∃ c', parseDoc ap (stickyText name t) = .ok [Bp.Elem.sticky { name := name, text := t }] c' := by
  let e : EForm ap :=
    { pre := none
      head := 'N'
      body := (stickyText name t).tail
      elem := Bp.Elem.sticky { name := name, text := t }
      headOK := by decide
      headAscii := by decide
      preOK := trivial
      noTab := stickyText_no_tab name t hname ht
      parse := fun c c0 post hb hr0 hp0 _ hends => stickyE_parse ap ['N', 'o', 't', 'e'] name name t kwFactsG_Note
        (spells_bare _ hne hname) ht h3 'N' c c0 post hb hr0 hp0 hends }
  have := parseDoc_elems [e] (by simp)
  rwa [docTextE_one] at this

/-- **C02 on the smallest element**: a database holding one sticky note whose name is a bare identifier and whose text is
    one normalised line (no line-break character, no tab, no triple quote) is rendered to DBML and parsed back to exactly
    the same database. -/
theorem sticky_roundtrip_partial (ap : Bool) (s : Sticky)
    (hne : s.name ≠ []) (hname : s.name.all isNameChar = true)
    (ht : Plain s.text) (h3 : hasTriple s.text = false) (hnorm : norm s.text = s.text) :
    ∃ text, Dbml.renderDb { sticky := [s], allowProps := ap } = .ok text
      ∧ Build.parse ap text = .ok { sticky := [s], allowProps := ap } := by
  refine roundtrip_of ap _ (stickyText s.name s.text) _ (renderDb_sticky ap s ht)
    (parseDoc_sticky ap s.name s.text hne hname ht h3) (by simp [removeBom, stickyText]) ?_
  simp [buildDatabase, enumBps, tableBps, groupBps, stickyBps, projectBp, refBlueprints, buildProject, buildSticky,
    bind, Except.bind, pure, Except.pure, hnorm]

/-- non-vacuity of the decidable hypotheses -/
example : (lit "todo_1") ≠ [] ∧ (lit "todo_1").all isNameChar = true ∧ hasTriple (lit "it's a \\ note") = false
    ∧ norm (lit "it's a \\ note") = lit "it's a \\ note" := by
  repeat rw [lit_eq rfl]
  decide +kernel

end C02
end PyDBML
