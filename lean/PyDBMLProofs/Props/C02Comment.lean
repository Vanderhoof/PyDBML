/-
C14/C02 — a one-line `//` comment directly above an element: what the renderer writes for it, and that `_c`
(`cBefore`, the comment collector every element rule starts with) reads exactly that comment back.
-/
import PyDBMLProofs.Props.C02Table
import PyDBMLProofs.Props.C14
namespace PyDBML
namespace C02
open Lex Grammar Build

/-- a comment the round trip covers: one line, beginning with a visible character, without a tab -/
def CommentOK (cm : Str) : Prop := (∃ x xs, cm = x :: xs ∧ isWs x = false) ∧ ∀ c ∈ cm, c ≠ '\n' ∧ c ≠ '\t'

def CmOK : Option Str → Prop
  | none => True
  | some cm => CommentOK cm

def commentText : Option Str → Str
  | none => []
  | some cm => '/' :: '/' :: ' ' :: (cm ++ ['\n'])

def cmList : Option Str → List Str
  | none => []
  | some cm => [cm]

theorem joinBefore_cmList (cm : Option Str) : joinBefore (cmList cm) = cm := by
  cases cm <;> simp [joinBefore, cmList, joinNL]

/-- `comment_to_dbml` on such a comment -/
theorem optComment_eq (cm : Option Str) (h : CmOK cm) : Dbml.optComment cm = commentText cm := by
  cases cm with
  | none => rfl
  | some c =>
    obtain ⟨⟨x, xs, rfl, _⟩, hall⟩ := h
    have hnl : '\n' ∉ (x :: xs) := fun hm => (hall _ hm).1 rfl
    simp only [Dbml.optComment, commentToDbml, commentLines, C14.splitNL_no_nl_self _ hnl, List.map_cons, List.map_nil, joinNL,
      commentText, lit]
    simp

theorem commentText_no_tab (cm : Option Str) (h : CmOK cm) : ∀ c ∈ commentText cm, c ≠ '\t' := by
  cases cm with
  | none => simp [commentText]
  | some s =>
    simp only [commentText, List.forall_mem_cons, List.forall_mem_append, List.mem_nil_iff, false_imp_iff, implies_true, ne_eq, Char.reduceEq,
    not_false_eq_true, true_and, and_true]
    exact fun c hc => (h.2 c hc).2

theorem comment_line_ok (c : Cur) (cm r : Str) (hn : (skipWs c).rest = '/' :: '/' :: ' ' :: (cm ++ '\n' :: r))
    (hp : c.pastEnd = false) (hcm : CommentOK cm) :
    ∃ c', comment c = .ok cm c' ∧ c'.rest = '\n' :: r ∧ c'.pastEnd = false ∧ c'.rest.length < c.rest.length := by
  obtain ⟨⟨x, xs, hx, hxw⟩, hall⟩ := hcm
  have h2 : (advance (skipWs c) 2).rest = ' ' :: (cm ++ '\n' :: r) := by rw [C13.advance_rest, hn]; rfl
  have h3 : (skipWs (advance (skipWs c) 2)).rest = cm ++ '\n' :: r := by
    have := skipWs_rest_spaces (advance (skipWs c) 2) 1 x (xs ++ '\n' :: r) (by rw [h2, hx]; rfl) hxw
    rw [this, hx]; rfl
  have htw : (cm ++ '\n' :: r).takeWhile (fun y => decide (y ≠ '\n')) = cm :=
    takeWhile_append_stop _ cm ('\n' :: r) (by
      rw [List.all_eq_true]; intro y hy; simpa using (hall y hy).1) (by intro y hy; simp at hy; subst hy; simp)
  have hpe : (skipWs (advance (skipWs c) 2)).pastEnd = false := by
    rw [skipWs_pastEnd, C13.advance_pastEnd, skipWs_pastEnd]; exact hp
  have hlen : (skipWs c).rest.length ≤ c.rest.length := skipWs_len c
  refine ⟨advance (skipWs (advance (skipWs c) 2)) cm.length, ?_, ?_, ?_, ?_⟩
  · unfold comment
    simp only [skipWs_pastEnd, hp, Bool.false_eq_true, ↓reduceIte, hn, h3, htw]
  · rw [C13.advance_rest, h3]; simp
  · rw [C13.advance_pastEnd]; exact hpe
  · rw [C13.advance_rest, h3]
    rw [hn] at hlen
    simp only [List.drop_left', List.length_cons, List.length_append] at hlen ⊢
    omega

theorem run_cbBody_comment (cm r : Str) (hcm : CommentOK cm) :
    Run cbBody (some cm) (At ('/' :: '/' :: ' ' :: (cm ++ '\n' :: r))) (At ('\n' :: r)) :=
  .alt_right (.bind (fails_sym toList_nl 0 '/' _ (by decide) (by decide)))
    (.bind (fun c hc =>
      let ⟨c', h, hr, hp, _⟩ := comment_line_ok c cm r (skipWs_rest_head c '/' _ hc.1 (by decide)) hc.2 hcm
      ⟨c', h, hr, hp⟩) .pure)

theorem many_comment_line (s : Str) (x : Char) (xr : Str) (hx : isWs x = false ∧ x ≠ '\n' ∧ x ≠ '/') (hs : CommentOK s)
    (fuel : Nat) (hf : 2 < fuel) :
    Run (many cbBody fuel) [some s, none] (At ('/' :: '/' :: ' ' :: (s ++ '\n' :: x :: xr))) (AtNl (x :: xr)) :=
  .many_cons (run_cbBody_comment s _ hs) (AtE.prog (by simp only [List.length_cons, List.length_append]; omega))
    (Run.many_cons (run_cbBody_nl _) (fun c c' hc hc' => by rw [hc.1, hc'.1.1]; simp)
      (Run.many_stop (fails_cbBody.pre fun c hc => .of_endOK (endOK_at 0 x xr hx) c hc.1))) fuel hf

def cmItems : Option Str → List (Option Str)
  | none => []
  | some s => [some s, none]

theorem many_nl_comment (cm : Option Str) (x : Char) (xr : Str) (hx : isWs x = false ∧ x ≠ '\n' ∧ x ≠ '/') (hcm : CmOK cm)
    (fuel : Nat) (hf : 3 < fuel) :
    Run (many cbBody fuel) (none :: cmItems cm) (At ('\n' :: (commentText cm ++ x :: xr))) (AtNl (x :: xr)) := by
  refine .many_cons (n := 2) (run_cbBody_nl _) (fun c c' hc hc' => by rw [hc.1, hc'.1.1]; simp) (fun fuel hf => ?_) fuel hf
  cases cm with
  | none => exact .many_stop (fails_cbBody.pre fun c hc => .of_endOK (endOK_at 0 x xr hx) c hc.1) fuel (by omega)
  | some s => exact (many_comment_line s x xr hx hcm fuel hf).pre fun c hc => ⟨by simpa [commentText] using hc.1.1, hc.1.2⟩

theorem many_nls {α} {p : P α} {v : α} (hnl : ∀ r, Run p v (At ('\n' :: r)) (At r)) {m : Nat} {els : List α} {tail : Str}
    {T : Cur → Prop} (hE : ∀ fuel, m < fuel → Run (many p fuel) els (At tail) T) (k fuel : Nat) (hf : k + m < fuel) :
    Run (many p fuel) (List.replicate k v ++ els) (At (List.replicate k '\n' ++ tail)) T := by
  simpa using Run.many_list (fun _ : Unit => v) (fun ys => At (ys.map (fun _ => '\n') ++ tail)) (fun _ => True)
    (fun _ _ _ => hnl _) (fun _ _ => AtE.prog (by simp)) hE (List.replicate k ()) (fun _ _ => trivial) fuel (by simpa using hf)

theorem filterMap_nls_comment (k : Nat) (cm : Option Str) :
    (List.replicate k none ++ none :: cmItems cm).filterMap id = cmList cm := by
  cases cm <;> simp [cmItems, cmList]

theorem run_cBefore_nls (cm : Option Str) (k : Nat) (x : Char) (xr : Str) (hx : isWs x = false ∧ x ≠ '\n' ∧ x ≠ '/')
    (hcm : CmOK cm) :
    Run cBefore (cmList cm) (At (List.replicate k '\n' ++ '\n' :: (commentText cm ++ x :: xr))) (AtNl (x :: xr)) :=
  filterMap_nls_comment k cm ▸ run_cBefore (many_nls (fun r => (run_cbBody_nl r).post fun c hc => hc.1)
      (many_nl_comment cm x xr hx hcm) k) (fun c hc => by
    rw [hc.1]; simp only [List.length_append, List.length_replicate, List.length_cons]; omega)

/-- `_c` at the very start of the text or right after an element -/
theorem cBefore_comment (c : Cur) (cm : Option Str) (x : Char) (xr : Str) (hxw : isWs x = false) (hx1 : x ≠ '\n')
    (hx2 : x ≠ '/') (hc : c.rest = commentText cm ++ x :: xr) (hp : c.pastEnd = false) (hcm : CmOK cm)
    (hprev : ∀ p, c.prev = some p → isKwIdent p = false) :
    ∃ c0, cBefore c = .ok (cmList cm) c0 ∧ c0.rest = x :: xr ∧ c0.pastEnd = false
      ∧ ∀ p, c0.prev = some p → isKwIdent p = false := by
  cases cm with
  | none => exact ⟨c, cBefore_stays c (.of_endOK (endOK_at 0 x xr ⟨hxw, hx1, hx2⟩) c (e := false) ⟨hc, hp⟩), hc, hp, hprev⟩
  | some s =>
    obtain ⟨c0, h, h0⟩ := run_cBefore (many_comment_line s x xr ⟨hxw, hx1, hx2⟩ hcm) (fun c hc => by rw [hc.1]; simp) c
      ⟨by simpa [commentText] using hc, hp⟩
    exact ⟨c0, h, h0.1.1, h0.1.2, h0.prev⟩

/-- `_c` after the end rule of the previous element consumed one line break -/
theorem cBefore_nl_comment (c : Cur) (cm : Option Str) (x : Char) (xr : Str) (hxw : isWs x = false) (hx1 : x ≠ '\n')
    (hx2 : x ≠ '/') (hc : c.rest = '\n' :: (commentText cm ++ x :: xr)) (hp : c.pastEnd = false) (hcm : CmOK cm) :
    ∃ c0, cBefore c = .ok (cmList cm) c0 ∧ c0.rest = x :: xr ∧ c0.pastEnd = false
      ∧ ∀ p, c0.prev = some p → isKwIdent p = false :=
  let ⟨c0, h, h0⟩ := run_cBefore_nls cm 0 x xr ⟨hxw, hx1, hx2⟩ hcm c ⟨hc, hp⟩
  ⟨c0, h, h0.1.1, h0.1.2, h0.prev⟩

end C02
end PyDBML
