/-
C02/C01 — the note of a table, as `render_table` writes it after the column lines: `    Note {`, `        'text'`, `    }`.
-/
import PyDBMLProofs.Props.C02Form
namespace PyDBML
namespace C02
open Lex Grammar Build

def noteBlock (t : Str) : Str :=
  if t.isEmpty then [] else
    ' ' :: ' ' :: ' ' :: ' ' :: 'N' :: 'o' :: 't' :: 'e' :: ' ' :: '{' :: '\n' ::
    ' ' :: ' ' :: ' ' :: ' ' :: ' ' :: ' ' :: ' ' :: ' ' :: '\'' :: (prepareTextForDbml t ++
      '\'' :: '\n' :: ' ' :: ' ' :: ' ' :: ' ' :: '}' :: ['\n'])

def noteElems (t : Str) : List TblElem := if t.isEmpty then [] else [TblElem.note t]

/-- a table note the round trip covers: one plain normalised line without a triple quote (or no note at all) -/
def TNoteOK (t : Str) : Prop := Plain t ∧ hasTriple t = false ∧ norm t = t

theorem tnoteOK_nil : TNoteOK [] := ⟨(by intro c hc; cases hc), (by decide), (by decide)⟩

theorem noteBlock_nil : noteBlock [] = [] := rfl
theorem noteElems_nil : noteElems [] = [] := rfl

theorem endOK_note (nt tail : Str) : EndOK (noteBlock nt ++ '}' :: tail) := by
  unfold noteBlock
  split
  · exact endOK_brace tail
  · exact ⟨4, 'N', _, by simp [List.replicate]; rfl, by decide, by decide, by decide⟩

theorem fails_columnType_brace {e : Bool} (k : Nat) (r : Str) :
    Fails columnType (AtE (List.replicate k ' ' ++ '{' :: r) e) := by
  have h : Fails nameRaw (AtE ('{' :: r) e) := fails_nameRaw (by decide) (fails_name 0 '{' r (by decide) (by decide) (by decide))
  unfold columnType
  exact .skipWs (.alt (.bind h) (.alt (.bind h) (.bind h))) (at_skipWs k (by decide))

theorem noteBlock_no_tab (t : Str) (ht : Plain t) : ∀ c ∈ noteBlock t, c ≠ '\t' := by
  unfold noteBlock
  split
  · simp
  · simp only [List.forall_mem_cons, List.forall_mem_append, List.mem_nil_iff, false_imp_iff, implies_true, ne_eq, Char.reduceEq,
    not_false_eq_true, true_and, and_true]
    exact forall_mem_prepare (by decide) fun c hc => (ht c hc).2

theorem run_noteObject (k j i : Nat) (nt r : Str) (hnt : TNoteOK nt) :
    Run noteObject nt (At (List.replicate (k + 1) ' ' ++ 'N' :: (['o', 't', 'e'] ++ ' ' :: '{' :: '\n' ::
      (List.replicate j ' ' ++ '\'' :: (prepareTextForDbml nt ++ '\'' :: '\n' :: (List.replicate i ' ' ++ '}' :: r)))))) (At r) := by
  refine .bind (run_ckw_sp toList_note k 'N' ['o', 't', 'e'] ' ' _ (by decide) (by decide) (by decide) (by decide)) ?_
  refine .bind (stay_skipNl (endOK_at 1 '{' _ (by decide))) (.cut ?_)
  refine .bind (run_lbrace 1 _) ?_
  refine .bind (run_skipNl_nl 0 (endOK_at j '\'' _ (by decide))) ?_
  refine .bind (run_string j nt _ (oneLine_of_plain nt hnt.1) hnt.2.1 (Or.inr (by simp))) ?_
  refine .bind (run_skipNl_nl 0 (endOK_at i '}' _ (by decide))) ?_
  exact .bind (run_rbrace i _) .pure

/-- no column (after the name `Note` no type follows) and no `note:` setting, but a note object -/
theorem tableElement_note (props : Bool) (c : Cur) (nt tail : Str) (hne : nt.isEmpty = false) (hnt : TNoteOK nt)
    (hc : c.rest = noteBlock nt ++ '}' :: tail) (hp : c.pastEnd = false) :
    ∃ c', tableElement props c = .ok (TblElem.note nt) c' ∧ c'.rest = '}' :: tail ∧ c'.pastEnd = false := by
  have e : noteBlock nt ++ '}' :: tail = List.replicate 4 ' ' ++ 'N' :: (['o', 't', 'e'] ++ ' ' :: '{' :: '\n' ::
      (List.replicate 8 ' ' ++ '\'' :: (prepareTextForDbml nt ++ '\'' :: '\n' :: (List.replicate 4 ' ' ++ '}' :: '\n' :: '}' :: tail)))) := by
    unfold noteBlock; simp [hne]
  rw [e] at hc
  refine Run.at ?_ c hc hp
  exact .bind (stay_skipNl (endOK_at 4 'N' _ (by decide)))
    (.bind (.alt_right
        (.bind (.bind_after (stay_cBefore (endOK_at 4 'N' _ (by decide))) (.bind_after
          (run_name 4 'N' ['o', 't', 'e'] _ (by decide) (by intro y hy; cases hy; decide)) (.bind (fails_columnType_brace 1 _)))))
        (.alt_left (.bind (.alt_right (.bind (fails_clit toList_noteC 4 'N' _ (by decide) rfl))
          (run_noteObject 3 8 4 nt ('\n' :: '}' :: tail) hnt)) .pure)))
      (.bind (run_skipNl_nl 0 (endOK_brace tail)) .pure))

theorem bodyEnd_note (props : Bool) (nt tail : Str) (hnt : TNoteOK nt) :
    BodyEnd props (noteBlock nt ++ '}' :: tail) (noteElems nt) tail := by
  cases hne : nt.isEmpty with
  | true =>
    have : nt = [] := by simpa using hne
    subst this
    exact bodyEnd_brace props tail
  | false =>
    intro fuel c hf
    rw [show noteElems nt = [TblElem.note nt] by simp [noteElems, hne]]
    exact (Run.many_cons (.of_at (tableElement_note props · nt tail hne hnt))
      (AtE.prog (by unfold noteBlock; simp [hne]; omega))
      (Run.many_stop fun c hc => tableElement_fail_brace props c tail hc.1) fuel hf).at c

theorem renderNote_block (nt : Str) (hnt : Plain nt) :
    (if nt.isEmpty then [] else Dbml.indent4 (Dbml.renderNote nt) ++ ['\n']) = noteBlock nt := by
  unfold noteBlock
  split
  · rfl
  · have hjoin : Dbml.renderNote nt
        = joinNL [['N', 'o', 't', 'e', ' ', '{'], [' ', ' ', ' ', ' '] ++ ('\'' :: prepareTextForDbml nt ++ ['\'']), ['}']] := by
      rw [Dbml.renderNote, indent4_quoteString nt hnt]
      repeat rw [lit_eq rfl]
      simp [joinNL]
    have hq : LineOK ([' ', ' ', ' ', ' '] ++ ('\'' :: prepareTextForDbml nt ++ ['\''])) := fun c hc =>
      (Plain.append (a := [' ', ' ', ' ', ' ']) (by decide) hnt.quoted c (by simpa using hc)).1
    rw [hjoin, indent4_linesG _ (by simp)]
    · simp
    -- the three lines one by one; `simp +decide` over them costs three times as much
    · exact List.forall_mem_cons.mpr ⟨by unfold LineOK; decide, List.forall_mem_cons.mpr ⟨hq,
        List.forall_mem_cons.mpr ⟨by unfold LineOK; decide, nofun⟩⟩⟩
    · exact List.forall_mem_cons.mpr ⟨by decide, List.forall_mem_cons.mpr ⟨by
        rw [List.all_eq_false]; exact ⟨'\'', by simp, by decide⟩, List.forall_mem_cons.mpr ⟨by decide, nofun⟩⟩⟩

end C02
end PyDBML
