/-
C17 — inconsistent models are refused at render time (decision logic stated outright).
-/
import PyDBMLModel
namespace PyDBML
namespace C17
open Dispatch

/-- first `check_attributes_for_sql`, then a detached table's need of its database -/
theorem renderOutcome_default (k : EKind) (attached : Bool) (unset : List String) :
    renderOutcome true .defaultR k attached unset =
      if (requiredAttrs k).any (unset.contains ·) then .attributeMissing
      else if k = .table && !attached then .unknownDatabase else .defaultText := by
  unfold renderOutcome
  cases rendererFor k attached <;> rfl

/-- an element lacking a required attribute is refused by the default SQL renderer, attached or detached -/
theorem required_unset_refused (k : EKind) (attached : Bool) (unset : List String) (a : String)
    (ha : a ∈ requiredAttrs k) (hu : a ∈ unset) :
    renderOutcome true .defaultR k attached unset = .attributeMissing := by
  rw [renderOutcome_default, if_pos (List.any_eq_true.mpr ⟨a, ha, by simpa using hu⟩)]

/-- …and only then (a detached table is the one exception: its SQL needs the database's references) -/
theorem complete_renders (k : EKind) (attached : Bool) (unset : List String)
    (h : ∀ a ∈ requiredAttrs k, a ∉ unset) (ht : k ≠ .table ∨ attached = true) :
    renderOutcome true .defaultR k attached unset = .defaultText := by
  have hall : (requiredAttrs k).any (unset.contains ·) = false :=
    List.any_eq_false.mpr fun a ha => by simpa using h a ha
  have hdet : (decide (k = .table) && !attached) = false := by
    rcases ht with ht | ht <;> simp [ht]
  rw [renderOutcome_default, hall, hdet]
  rfl

example : requiredAttrs .table = ["name", "schema"] ∧ requiredAttrs .column = ["name", "type"]
    ∧ "table" ∈ requiredAttrs .index ∧ "schema" ∈ requiredAttrs .enum ∧ requiredAttrs .enumItem = ["name"] := by
  decide

theorem anyDetached_of_mem (a b : Side) (h : none ∈ a ++ b) : anyDetached a b = true :=
  List.any_eq_true.mpr ⟨none, h, rfl⟩

theorem detached_endpoint_sql (m2m : Bool) (a b : Side) (h : none ∈ a ++ b) :
    refSql m2m a b = .tableNotFound := by
  simp [refSql, anyDetached_of_mem a b h]

theorem detached_endpoint_dbml (inline : Bool) (a b : Side) (h : none ∈ a ++ b) :
    refDbml inline a b = .tableNotFound := by
  simp [refDbml, anyDetached_of_mem a b h]

/-- a side mixes columns of different tables: its head `t` and some other `u ≠ t` -/
def Mixed (s : Side) : Prop := ∃ t rest u, s = t :: rest ∧ u ∈ rest ∧ u ≠ t

theorem sideMixed_of_mixed (s : Side) (h : Mixed s) : sideMixed s = some true := by
  obtain ⟨t, rest, u, rfl, hu, hne⟩ := h
  simp only [sideMixed]
  congr 1
  rw [List.any_eq_true]
  exact ⟨u, hu, by simpa using hne⟩

/-- asking a reference with a mixed side for its tables raises the DBML error (`a` empty: `col1[0]` raises first;
    `hb` is not needed) -/
theorem mixed_side_tables (a b : Side) (ha : a ≠ []) (hb : b ≠ []) (h : Mixed a ∨ Mixed b) :
    tableProp a b = .dbmlError := by
  unfold tableProp validate
  rcases h with h | h
  · rw [sideMixed_of_mixed a h]
  · -- `a` is looked at first: not empty, so it is mixed (refused at once) or not (then `b` decides)
    cases hsa : sideMixed a with
    | none => cases a <;> simp_all [sideMixed]
    | some m =>
      cases m
      · simp [sideMixed_of_mixed b h]
      · rfl

theorem mixed_side_dbml (a b : Side) (ha : a ≠ []) (hb : b ≠ []) (hd : anyDetached a b = false)
    (h : Mixed a ∨ Mixed b) : refDbml false a b = .dbmlError := by
  simpa [refDbml, hd, tableProp] using mixed_side_tables a b ha hb h

theorem composite_inline_dbml (a b : Side) (hd : anyDetached a b = false) (h : b.length > 1) :
    refDbml true a b = .dbmlError := by
  simp [refDbml, hd, h]

theorem detached_get_refs :
    tableGetRefs false = .unknownDatabase ∧ (∀ d, columnGetRefs false d = .tableNotFound)
    ∧ columnGetRefs true false = .unknownDatabase :=
  ⟨rfl, fun _ => rfl, rfl⟩

-- hypotheses are satisfiable, and the recorded observation: a mixed side is NOT refused in SQL
example : Mixed [some 0, some 1] := ⟨some 0, [some 1], some 1, rfl, by simp, by decide⟩
example : refSql false [some 0, some 1] [some 2] = .ok := by decide

end C17
end PyDBML
