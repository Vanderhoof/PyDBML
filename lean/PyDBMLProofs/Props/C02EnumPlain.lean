/-
C02/C01 — enums whose items carry no note, as the case "every note empty" of the enums of C02EnumNote.lean.
-/
import PyDBMLProofs.Props.C02EnumNote
namespace PyDBML
namespace C02
open Lex Grammar Build

def itemLine (n : Str) : Str := '\n' :: ' ' :: ' ' :: ' ' :: ' ' :: '"' :: (n ++ ['"'])

def itemsText : List Str → Str
  | [] => []
  | n :: r => itemLine n ++ itemsText r

def plainItem (n : Str) : Bp.EnumItemBp := { name := n }

def enumText (en : Str) (ns : List Str) : Str :=
  'E' :: 'n' :: 'u' :: 'm' :: ' ' :: '"' :: (en ++ '"' :: ' ' :: '{' :: (itemsText ns ++ ['\n', '}']))

def plainEnumBp (en : Str) (ns : List Str) : Bp.EnumBp := { name := en, items := ns.map plainItem }

def plainEnum (en : Str) (ns : List Str) : Enum := { name := en, schema := lit "public", items := ns.map fun n => { name := n } }

def noNotes (ns : List Str) : List (Str × Str) := ns.map fun n => (n, [])

theorem itemsTextN_noNotes : ∀ ns : List Str, itemsTextN (noNotes ns) = itemsText ns
  | [] => rfl
  | n :: r => by
    have := itemsTextN_noNotes r
    simp only [noNotes] at this
    simp [noNotes, itemsTextN, itemsText, itemLineN, itemLine, itemStrN, itemNoteText, this]

theorem enumTextN_noNotes (en : Str) (ns : List Str) : enumTextN en (noNotes ns) = enumText en ns := by
  simp [enumTextN, enumText, itemsTextN_noNotes]

theorem enumBpN_noNotes (en : Str) (ns : List Str) : enumBpN en (noNotes ns) = plainEnumBp en ns := by
  simp [enumBpN, plainEnumBp, noNotes, List.map_map, Function.comp_def, noteItem, plainItem]

theorem itemOK_noNotes (ns : List Str) (h : ∀ n ∈ ns, NameOK n) : ∀ it ∈ noNotes ns, ItemOK it :=
  List.forall_mem_map.mpr fun n hn => ⟨h n hn, Plain.nil, rfl, rfl⟩

theorem enumRule_okP (c c0 : Cur) (en : Str) (ns : List Str) (post : Str) (Q : Cur → Prop)
    (hb : cBefore c = .ok [] c0) (hc : c0.rest = enumText en ns ++ post) (hp : c0.pastEnd = false)
    (hen : NameOK en) (hns : ∀ n ∈ ns, NameOK n) (hne : ns ≠ [])
    (hend : ∀ c7 : Cur, c7.rest = post → c7.pastEnd = false → ∃ c9, endRule c7 = .ok () c9 ∧ Q c9) :
    ∃ c9, enumRule c = .ok (plainEnumBp en ns) c9 ∧ Q c9 := by
  rw [← enumBpN_noNotes]
  exact enumRule_okPN c c0 en (noNotes ns) post Q hb (by rw [hc, enumTextN_noNotes]) hp hen (itemOK_noNotes ns hns)
    (by simpa [noNotes] using hne) hend

abbrev ESpec := Str × List Str

def ESpecOK (e : ESpec) : Prop := NameOK e.1 ∧ (∀ n ∈ e.2, NameOK n) ∧ e.2 ≠ []

def mkEnumElem (e : ESpec) : Bp.Elem := Bp.Elem.enum (plainEnumBp e.1 e.2)

theorem especN_noNotes (e : ESpec) (he : ESpecOK e) : ESpecNOK (e.1, noNotes e.2) :=
  ⟨he.1, itemOK_noNotes e.2 he.2.1, by simpa [noNotes] using he.2.2⟩

def enumE (ap : Bool) (e : ESpec) (he : ESpecOK e) : EForm ap where
  pre := none
  head := 'E'
  body := (enumText e.1 e.2).tail
  elem := mkEnumElem e
  headOK := by decide
  headAscii := by decide
  preOK := trivial
  noTab := by
    have := enumTextN_no_tab (e.1, noNotes e.2) (especN_noNotes e he)
    simpa [enumTextN_noNotes] using this
  parse := by
    intro c c0 post hb hr0 hp0 hpv hends
    have := (enumEN ap (e.1, noNotes e.2) (especN_noNotes e he)).parse c c0 post hb
      (by simpa [enumEN, enumTextN_noNotes] using hr0) hp0 hpv hends
    simpa [enumEN, mkEnumElemN, mkEnumElem, enumBpN_noNotes] using this

theorem enumE_text (ap : Bool) (e : ESpec) (he : ESpecOK e) : (enumE ap e he).text = enumText e.1 e.2 := by
  simp [EForm.text, enumE, commentText, enumText]

theorem parseDoc_enum (ap : Bool) (en : Str) (ns : List Str) (hen : NameOK en) (hns : ∀ n ∈ ns, NameOK n) (hne : ns ≠ []) :
    ∃ c', parseDoc ap (enumText en ns) = .ok [Bp.Elem.enum (plainEnumBp en ns)] c' := by
  have he : ESpecOK (en, ns) := ⟨hen, hns, hne⟩
  have := parseDoc_elems [enumE ap (en, ns) he] (by simp)
  rwa [docTextE_one, enumE_text] at this

theorem build_enum (ap : Bool) (en : Str) (ns : List Str) :
    buildDatabase ap [Bp.Elem.enum (plainEnumBp en ns)] = .ok { enums := [plainEnum en ns], allowProps := ap } := by
  simp [buildDatabase, enumBps, tableBps, groupBps, stickyBps, projectBp, refBlueprints, buildProject, enumStep, buildEnum,
    addEnum, plainEnumBp, plainEnum, plainItem, buildEnumItem, noteText, bind, Except.bind, pure, Except.pure,
    List.map_map, Function.comp_def]

/-- **C02 for one enum** (schema public, any positive number of items with quoted names, no notes, no comments): rendered to
    DBML and parsed back to exactly the same database. -/
theorem enum_roundtrip_partial (ap : Bool) (en : Str) (ns : List Str) (hen : NameOK en) (hns : ∀ n ∈ ns, NameOK n)
    (hne : ns ≠ []) :
    ∃ text, Dbml.renderDb { enums := [plainEnum en ns], allowProps := ap } = .ok text
      ∧ Build.parse ap text = .ok { enums := [plainEnum en ns], allowProps := ap } := by
  have he : ESpecNOK (en, noNotes ns) := especN_noNotes (en, ns) ⟨hen, hns, hne⟩
  have hm : mkEnumN (en, noNotes ns) = plainEnum en ns := by
    simp [mkEnumN, plainEnum, noNotes, List.map_map, Function.comp_def]
  refine roundtrip_of ap _ (enumText en ns) _ ?_ (parseDoc_enum ap en ns hen hns hne) (by simp [removeBom, enumText])
    (build_enum ap en ns)
  unfold Dbml.renderDb Dbml.renderProjectList
  simp [bind, Except.bind, pure, Except.pure, joinWith, ← hm, renderEnum_N _ he, enumTextN_noNotes]

end C02
end PyDBML
