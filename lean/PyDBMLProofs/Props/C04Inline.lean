/-
C04 — inline references: the FOREIGN KEY clause written inside the CREATE TABLE of the key holder, read back.
-/
import PyDBMLModel
import PyDBMLProofs.Props.C04Read
namespace PyDBML
namespace C04
open Sql C03

/-- the clause the model writes for an inline reference that is not many-to-many: what `fkLine` has between ` ADD `
    and the closing `;` -/
def fkClause (r : Ref) (st rt : Table) : Str :=
  constraintText r ++ lit "FOREIGN KEY (" ++ joinWith (lit ", ") ((namesAt st (refSides r).1.2).map quoteN) ++ [')']
    ++ lit " REFERENCES " ++ qualName rt.schema rt.name ++ lit " (" ++ joinWith (lit ", ") ((namesAt rt (refSides r).2.2).map quoteN)
    ++ [')'] ++ onClauses r

theorem renderInlineRef_clause (db : Db) (r : Ref) (st rt : Table)
    (hst : db.tables[(refSides r).1.1]? = some st) (hrt : db.tables[(refSides r).2.1]? = some rt)
    (hsc : ∀ i ∈ (refSides r).1.2, i < st.columns.length) (hrc : ∀ i ∈ (refSides r).2.2, i < rt.columns.length)
    (hcm : r.comment = none) : renderInlineRef db r = .ok (fkClause r st rt) := by
  unfold renderInlineRef
  rcases hrs : refSides r with ⟨⟨a, b⟩, ⟨c, d⟩⟩
  simp only [hrs] at hst hrt hsc hrc
  simp only [getD?, hst, hrt, colNames_ok st b hsc, colNames_ok rt d hrc, bind, Except.bind, pure, Except.pure, fkClause,
    hrs, Sql.optComment, hcm, lit_references, List.nil_append, List.append_assoc, List.cons_append]

def fkClauseDescOf (r : Ref) (st rt : Table) : FkClauseDesc :=
  { constraint := constraintOf r, srcCols := namesAt st (refSides r).1.2, dst := qualName rt.schema rt.name,
    dstCols := namesAt rt (refSides r).2.2, actions := onClauses r }

theorem readFkClause_fkClause (r : Ref) (st rt : Table) (hne1 : (refSides r).1.2 ≠ []) (hne2 : (refSides r).2.2 ≠ [])
    (hqt : '"' ∉ rt.schema ∧ '"' ∉ rt.name)
    (hqc : (∀ n ∈ namesAt st (refSides r).1.2, '"' ∉ n) ∧ (∀ n ∈ namesAt rt (refSides r).2.2, '"' ∉ n))
    (hqn : ∀ n, r.name = some n → '"' ∉ n) :
    readFkClause (fkClause r st rt) = some (fkClauseDescOf r st rt) := by
  unfold readFkClause fkClause
  simp only [List.append_assoc, List.cons_append, List.nil_append, stripKw_append, readConstraint_ok r _ hqn,
    readNamesR_text _ _ (by simpa [namesAt] using hne1) hqc.1, readQual_ok _ _ (lit " (" ++ _) hqt.1 hqt.2 rfl,
    readNamesR_text _ _ (by simpa [namesAt] using hne2) hqc.2]
  rfl

/-- **the reader inverts `renderInlineRef`** (which table holds the clause: `inline_site`, `source_is_keyHolder` in C04.lean) for a
    reference without comment between existing columns (at least one a side), no double quote in a name: the source
    columns in order, the referenced table as qualified, its columns in order, `CONSTRAINT` exactly when the reference
    is named, and the action clauses. -/
theorem read_render_inline_fk (db : Db) (r : Ref) (st rt : Table)
    (hst : db.tables[(refSides r).1.1]? = some st) (hrt : db.tables[(refSides r).2.1]? = some rt)
    (hsc : ∀ i ∈ (refSides r).1.2, i < st.columns.length) (hrc : ∀ i ∈ (refSides r).2.2, i < rt.columns.length)
    (hcm : r.comment = none) (hne1 : (refSides r).1.2 ≠ []) (hne2 : (refSides r).2.2 ≠ [])
    (hqt : '"' ∉ rt.schema ∧ '"' ∉ rt.name)
    (hqc : (∀ n ∈ namesAt st (refSides r).1.2, '"' ∉ n) ∧ (∀ n ∈ namesAt rt (refSides r).2.2, '"' ∉ n))
    (hqn : ∀ n, r.name = some n → '"' ∉ n) :
    ∃ clause, renderInlineRef db r = .ok clause ∧ readFkClause clause = some (fkClauseDescOf r st rt) :=
  ⟨_, renderInlineRef_clause db r st rt hst hrt hsc hrc hcm, readFkClause_fkClause r st rt hne1 hne2 hqt hqc hqn⟩

example : readFkClause (lit "CONSTRAINT \"fk\" FOREIGN KEY (\"a id\") REFERENCES \"s\".\"a\" (\"id\") ON UPDATE SET NULL")
    = some ⟨some (lit "fk"), [lit "a id"], lit "\"s\".\"a\"", [lit "id"], lit " ON UPDATE SET NULL"⟩ := by
  repeat rw [lit_eq rfl]
  decide +kernel

end C04
end PyDBML
