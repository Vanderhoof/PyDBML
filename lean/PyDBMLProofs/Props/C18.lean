/-
C18 — "SQL creates a table before any table that references it inline" is FALSE of the code, and of the model:
`chain_violates` is a two-table witness (recorded finding).  What holds: the order is a permutation of the
tables that depends only on the model; what the order is, is in C18Order.
-/
import PyDBMLModel
namespace PyDBML
namespace C18
open Sql

theorem insertDesc_perm {α} (key : α → Nat) (x : α) (l : List α) :
    (insertDesc key x l).Perm (x :: l) := by
  induction l with
  | nil => simp [insertDesc]
  | cons y ys ih =>
    unfold insertDesc
    split
    · exact (List.Perm.cons y ih).trans (List.Perm.swap x y ys)
    · exact List.Perm.refl _

theorem sortDesc_perm {α} (key : α → Nat) (l : List α) : (sortDesc key l).Perm l := by
  induction l with
  | nil => simp [sortDesc]
  | cons x xs ih =>
    exact (insertDesc_perm key x _).trans (List.Perm.cons x ih)

/-- whatever the order chosen, every table position occurs exactly once -/
theorem perm (tables : List Table) (refs : List Ref) :
    (reorderIdx tables refs).Perm (List.range tables.length) :=
  sortDesc_perm _ _

theorem nodup (tables : List Table) (refs : List Ref) : (reorderIdx tables refs).Nodup :=
  (perm tables refs).nodup_iff.mpr List.nodup_range

def reorder (tables : List Table) (refs : List Ref) : List Table :=
  (reorderIdx tables refs).filterMap (tables[·]?)

theorem range_filterMap_getElem? {α} (l : List α) :
    (List.range l.length).filterMap (fun i => l[i]?) = l := by
  induction l with
  | nil => simp
  | cons x xs ih =>
    rw [List.length_cons, List.range_succ_eq_map, List.filterMap_cons]
    simp only [List.getElem?_cons_zero, List.filterMap_map]
    congr 1

theorem perm_tables (tables : List Table) (refs : List Ref) : (reorder tables refs).Perm tables := by
  have h := (perm tables refs).filterMap (tables[·]?)
  rw [range_filterMap_getElem?] at h
  exact h

/-- the order depends only on the table names and on which references are inline `>`/`<` and who hosts them -/
theorem depends_only_on_model (t₁ t₂ : List Table) (r₁ r₂ : List Ref)
    (hn : t₁.map (·.name) = t₂.map (·.name))
    (hh : r₁.map (hostName t₁) = r₂.map (hostName t₂)) :
    reorderIdx t₁ r₁ = reorderIdx t₂ r₂ := by
  have hlen : t₁.length = t₂.length := by simpa using congrArg List.length hn
  have hcount : ∀ name, countFor t₁ r₁ name = countFor t₂ r₂ name := by
    intro name
    unfold countFor
    have e1 : ∀ (ts : List Table) (rs : List Ref),
        (rs.filter fun r => hostName ts r = some name).length
          = ((rs.map (hostName ts)).filter fun h => h = some name).length := by
      intro ts rs
      rw [List.filter_map, List.length_map]
      rfl
    rw [e1, e1, hh]
  have hname : ∀ i : Nat, (t₁[i]?).map Table.name = (t₂[i]?).map Table.name := by
    intro i
    have := congrArg (·[i]?) hn
    simpa using this
  unfold reorderIdx
  rw [hlen]
  congr 1
  funext i
  -- the sort key of position `i` reads the table there only through its name
  have := hname i
  cases h1 : t₁[i]? <;> cases h2 : t₂[i]? <;> simp_all

/-- (host, target) pairs of inline `>`/`<`/`-` references between different tables -/
def inlineEdges (refs : List Ref) : List (Nat × Nat) :=
  refs.filterMap fun r =>
    if r.inline then
      let (h, t) := match r.kind with
        | .oneToMany => (r.t2, r.t1)
        | _ => (r.t1, r.t2)
      if h = t then none else some (h, t)
    else none

def targetsFirst (order : List Nat) (edges : List (Nat × Nat)) : Bool :=
  edges.all fun (h, t) => order.idxOf t < order.idxOf h

def chainTables : List Table :=
  [{ name := lit "a", columns := [{ name := lit "id", type := .plain (lit "int") }] },
   { name := lit "b", columns := [{ name := lit "id", type := .plain (lit "int") }] }]
def chainRefs : List Ref :=
  [{ kind := .manyToOne, t1 := 0, col1 := [0], t2 := 1, col2 := [0], inlineFlag := true }]

/-- `Table a { id int [ref: > b.id] }  Table b { id int }`: `a` (the host) is created first. -/
theorem chain_violates :
    targetsFirst (reorderIdx chainTables chainRefs) (inlineEdges chainRefs) = false := by decide

end C18
end PyDBML
