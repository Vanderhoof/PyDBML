/-
C13 — free text survives: what the SQL renderer makes of a note text and of an expression default.
-/
import PyDBMLModel
import PyDBMLProofs.Lit
namespace PyDBML
namespace C13

theorem not_mem_replaceChar {a : Char} {b s : Str} (h : a ∉ b) : a ∉ replaceChar a b s := by
  intro hm
  obtain ⟨c, _, hc⟩ := List.mem_flatMap.mp hm
  split at hc
  · exact h hc
  · next hca => exact hca (List.mem_singleton.mp hc).symm

/-- SQL note text never contains a single quote: the literal `'…'` cannot be ended early. -/
theorem sql_text_no_quote (t : Str) : '\'' ∉ prepareTextForSql t :=
  not_mem_replaceChar (by decide)

theorem sql_note_literal (entity name t : Str) :
    Sql.commentOn entity name t =
      lit "COMMENT ON " ++ entity ++ lit " \"" ++ name ++ lit "\" IS '" ++ prepareTextForSql t ++ lit "';" := rfl

theorem sql_expr_verbatim (t : Str) : Sql.defaultSql (.expr t) = '(' :: t ++ [')'] := rfl

example : prepareTextForSql (lit "it's a \\\nb") = lit "it\"s a b" := by
  repeat rw [lit_eq rfl]
  decide

end C13
end PyDBML
