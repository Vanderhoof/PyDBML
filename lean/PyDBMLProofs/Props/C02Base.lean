/-
C02/C01 — the base of the round-trip chain: what the primitives of the lexical layer do on the cursor after the white-space
skip (`*_fails` on the state `NoMatch` - `name_fails` on `AtWsE` -, `*_ok` on one cursor), `_`, `_c` and the end rules, and the texts the renderer
writes (name characters, `Plain` texts, quoting, `textwrap.indent`); `roundtrip_of` puts a round trip together.
-/
import PyDBMLProofs.Props.C13Lex
import PyDBMLProofs.Lit
import PyDBMLProofs.Run
import PyDBMLProofs.Join
namespace PyDBML
namespace C02
open Lex Grammar Build

/-! the literals of the grammar, spelt out once: no later proof makes the kernel decode one again -/

theorem toList_lbrace : "{".toList = ['{'] := lit_eq rfl
theorem toList_rbrace : "}".toList = ['}'] := lit_eq rfl
theorem toList_lbrack : "[".toList = ['['] := lit_eq rfl
theorem toList_rbrack : "]".toList = [']'] := lit_eq rfl
theorem toList_comma : ",".toList = [','] := lit_eq rfl
theorem toList_colon : ":".toList = [':'] := lit_eq rfl
theorem toList_dot : ".".toList = ['.'] := lit_eq rfl
theorem toList_nl : "\n".toList = ['\n'] := lit_eq rfl

theorem toList_table : "table".toList = ['t', 'a', 'b', 'l', 'e'] := lit_eq rfl
theorem toList_ref : "ref".toList = ['r', 'e', 'f'] := lit_eq rfl
theorem toList_enum : "enum".toList = ['e', 'n', 'u', 'm'] := lit_eq rfl
theorem toList_group : "TableGroup".toList = ['T', 'a', 'b', 'l', 'e', 'G', 'r', 'o', 'u', 'p'] := lit_eq rfl
theorem toList_project : "project".toList = ['p', 'r', 'o', 'j', 'e', 'c', 't'] := lit_eq rfl
theorem toList_note : "note".toList = ['n', 'o', 't', 'e'] := lit_eq rfl
theorem toList_noteC : "note:".toList = ['n', 'o', 't', 'e', ':'] := lit_eq rfl
theorem toList_refC : "ref:".toList = ['r', 'e', 'f', ':'] := lit_eq rfl
theorem toList_defaultC : "default:".toList = ['d', 'e', 'f', 'a', 'u', 'l', 't', ':'] := lit_eq rfl
theorem toList_as : "as".toList = ['a', 's'] := lit_eq rfl
theorem toList_indexes : "indexes".toList = ['i', 'n', 'd', 'e', 'x', 'e', 's'] := lit_eq rfl
theorem toList_pk : "pk".toList = ['p', 'k'] := lit_eq rfl
theorem toList_unique : "unique".toList = ['u', 'n', 'i', 'q', 'u', 'e'] := lit_eq rfl
theorem toList_increment : "increment".toList = ['i', 'n', 'c', 'r', 'e', 'm', 'e', 'n', 't'] := lit_eq rfl
theorem toList_notNull : "not null".toList = ['n', 'o', 't', ' ', 'n', 'u', 'l', 'l'] := lit_eq rfl
theorem toList_null : "null".toList = ['n', 'u', 'l', 'l'] := lit_eq rfl
theorem toList_primaryKey : "primary key".toList = ['p', 'r', 'i', 'm', 'a', 'r', 'y', ' ', 'k', 'e', 'y'] := lit_eq rfl
theorem toList_true : "true".toList = ['t', 'r', 'u', 'e'] := lit_eq rfl
theorem toList_false : "false".toList = ['f', 'a', 'l', 's', 'e'] := lit_eq rfl
theorem toList_NULL : "NULL".toList = ['N', 'U', 'L', 'L'] := lit_eq rfl

theorem swc_self (p r : Str) : startsWithCaseless (p ++ r) p = true := by
  induction p with
  | nil => simp [startsWithCaseless]
  | cons a p ih => simp [startsWithCaseless, ih]

theorem startsWithCaseless_append (s r pre : Str) (h : startsWithCaseless s pre = true) :
    startsWithCaseless (s ++ r) pre = true := by
  induction pre generalizing s with
  | nil => cases s <;> simp [startsWithCaseless]
  | cons p ps ih =>
    cases s with
    | nil => simp [startsWithCaseless] at h
    | cons x xs =>
      simp only [startsWithCaseless, Bool.and_eq_true, List.cons_append] at h ⊢
      exact ⟨h.1, ih xs h.2⟩

theorem swc_false_of_prefix (s p q : Str) (h : startsWithCaseless s p = false) : startsWithCaseless s (p ++ q) = false := by
  induction p generalizing s with
  | nil => simp [startsWithCaseless] at h
  | cons y ys ih =>
    cases s with
    | nil => simp [startsWithCaseless]
    | cons x xs =>
      simp only [List.cons_append, startsWithCaseless, Bool.and_eq_false_iff] at h ⊢
      rcases h with h | h
      · exact Or.inl h
      · exact Or.inr (ih xs h)

/-- the words differ, letter case aside, at a position both have -/
def Clash : Str → Str → Bool
  | a :: as, b :: bs => pyUpper1 a != pyUpper1 b || Clash as bs
  | _, _ => false

theorem clash_comm : ∀ a b : Str, Clash a b = Clash b a
  | [], [] | [], _ :: _ | _ :: _, [] => rfl
  | a :: as, b :: bs => by simp only [Clash, clash_comm as bs, bne_comm]

theorem swc_clash : ∀ a b tail : Str, Clash a b = true → startsWithCaseless (a ++ tail) b = false
  | [], _, _, h | _ :: _, [], _, h => by simp [Clash] at h
  | a :: as, b :: bs, tail, h => by
    simp only [Clash, Bool.or_eq_true, bne_iff_ne, ne_eq] at h
    simp only [List.cons_append, startsWithCaseless, Bool.and_eq_false_iff, beq_eq_false_iff_ne, ne_eq]
    exact h.imp (fun h e => h e.symm) (swc_clash as bs tail)

/-- the first half of `AtWsE (x :: r) e`; `sym_ok` and `skipNl_one` are stated with it -/
def Next (c : Cur) (x : Char) (r : Str) : Prop := (skipWs c).rest = x :: r

def AtWsE (a : Str) (e : Bool) (c : Cur) : Prop := (skipWs c).rest = a ∧ c.pastEnd = e

abbrev AtWs (a : Str) : Cur → Prop := AtWsE a false

theorem AtWs.of_at (k : Nat) {x : Char} {r : Str} {e : Bool} (hw : isWs x = false) (c : Cur)
    (h : AtE (List.replicate k ' ' ++ x :: r) e c) : AtWsE (x :: r) e c := ⟨skipWs_rest_spaces c k x r h.1 hw, h.2⟩

theorem AtWs.of_nil {e : Bool} (c : Cur) (h : AtE [] e c) : AtWsE [] e c := ⟨skipWs_rest_nil c h.1, h.2⟩

/-- no token with the test `t` starts here -/
def NoMatch (t : Str → Bool) (c : Cur) : Prop := c.pastEnd = true ∨ t (skipWs c).rest = false

theorem NoMatch.of_ws {t : Str → Bool} {a : Str} {e : Bool} {c : Cur} (ht : t a = false) (h : AtWsE a e c) : NoMatch t c :=
  .inr (h.1 ▸ ht)

def AtEnd (c : Cur) : Prop := c.pastEnd = true ∨ (skipWs c).rest = []

theorem NoMatch.of_end {t : Str → Bool} {c : Cur} (ht : t [] = false) (h : AtEnd c) : NoMatch t c :=
  h.imp id fun h' => by rw [h']; exact ht

theorem sym_fails {s : String} {kw : Str} (hs : s.toList = kw) : Fails (sym s) (NoMatch (startsWith · kw)) := fun c hc => by
  unfold sym litRaw
  rcases hc with h | h <;> simp [hs, h]

theorem clit_fails {s : String} {kw : Str} (hs : s.toList = kw) : Fails (clit s) (NoMatch (startsWithCaseless · kw)) :=
  fun c hc => by
  unfold clit
  rcases hc with h | h <;> simp [hs, h]

theorem ckw_fails {s : String} {kw : Str} (hs : s.toList = kw) : Fails (ckw s) (NoMatch (startsWithCaseless · kw)) :=
  fun c hc => by
  unfold ckw
  rcases hc with h | h <;> simp [hs, h]

theorem comment_fails : Fails comment (NoMatch (·.head? == some '/')) := fun c hc => by
  unfold comment
  rcases hc with h | h
  · simp [h]
  · dsimp only
    split
    · rfl
    · split
      · rename_i heq; simp [heq] at h
      · rename_i heq; simp [heq] at h
      · rfl

theorem name_fails {x : Char} {r : Str} {e : Bool} (h1 : isNameChar x = false) (h2 : x ≠ '"') :
    Fails name (AtWsE (x :: r) e) := fun c hc => by
  unfold name
  simp only [hc.1]
  split
  · rfl
  · simp only [List.takeWhile, h1, List.isEmpty_nil, Bool.not_true, Bool.false_eq_true, ↓reduceIte]
    split
    · rename_i heq; simp at heq; exact absurd heq.1 h2
    · rfl

theorem sym_ok (s : String) (ch : Char) (hs : s.toList = [ch]) (c : Cur) (r : Str) (hn : Next c ch r)
    (hp : c.pastEnd = false) : ∃ c', sym s c = .ok () c' ∧ c'.rest = r ∧ c'.pastEnd = false := by
  refine ⟨advance (skipWs c) 1, ?_, ?_, ?_⟩
  · unfold sym litRaw
    simp [show (skipWs c).rest = ch :: r from hn, hs, hp, startsWith]
  · rw [C13.advance_rest, show (skipWs c).rest = ch :: r from hn]; rfl
  · rw [C13.advance_pastEnd]; exact hp

theorem clit_ok (s : String) (c : Cur) (pre r : Str) (hn : (skipWs c).rest = pre ++ r) (hl : pre.length = s.toList.length)
    (hm : startsWithCaseless (pre ++ r) s.toList = true) (hp : c.pastEnd = false) :
    ∃ c', clit s c = .ok () c' ∧ c'.rest = r ∧ c'.pastEnd = false := by
  refine ⟨advance (skipWs c) s.length, ?_, ?_, ?_⟩
  · unfold clit
    simp [hn, hm, hp]
  · rw [C13.advance_rest, hn]
    have : s.length = pre.length := by rw [hl]; exact Eq.symm String.length_toList
    rw [this]; simp
  · rw [C13.advance_pastEnd]; exact hp

theorem ckw_ok' (s : String) (c : Cur) (pre r : Str) (hn : (skipWs c).rest = pre ++ r) (hl : pre.length = s.toList.length)
    (hm : startsWithCaseless (pre ++ r) s.toList = true) (hp : c.pastEnd = false)
    (hprev : ∀ p, (skipWs c).prev = some p → isKwIdent p = false) (hnext : ∀ x, r.head? = some x → isKwIdent x = false) :
    ∃ c', ckw s c = .ok () c' ∧ c'.rest = r ∧ c'.pastEnd = false := by
  have hlen : s.length = pre.length := by rw [hl]; exact Eq.symm String.length_toList
  have hrest : (advance (skipWs c) s.length).rest = r := by
    rw [C13.advance_rest, hn, hlen]; simp
  refine ⟨advance (skipWs c) s.length, ?_, hrest, ?_⟩
  · unfold ckw
    simp only [skipWs_pastEnd, hp, Bool.not_false, hn, hm, Bool.and_self, ↓reduceIte, hrest]
    cases hpv : (skipWs c).prev with
    | none =>
      cases r with
      | nil => simp
      | cons x xs => simp [hnext x rfl]
    | some p =>
      have := hprev p hpv
      cases r with
      | nil => simp [this]
      | cons x xs => simp [this, hnext x rfl]
  · rw [C13.advance_pastEnd]; exact hp

theorem name_ok (c : Cur) (nm r : Str) (hn : (skipWs c).rest = nm ++ r) (hne : nm ≠ [])
    (hall : nm.all isNameChar = true) (hstop : ∀ x, r.head? = some x → isNameChar x = false)
    (hp : c.pastEnd = false) : ∃ c', name c = .ok nm c' ∧ c'.rest = r ∧ c'.pastEnd = false := by
  have htw : (nm ++ r).takeWhile isNameChar = nm := takeWhile_append_stop _ _ _ hall hstop
  refine ⟨advance (skipWs c) nm.length, ?_, ?_, ?_⟩
  · unfold name
    simp only [skipWs_pastEnd, hp, Bool.false_eq_true, ↓reduceIte, hn, htw]
    cases nm with
    | nil => exact absurd rfl hne
    | cons a as => simp
  · rw [C13.advance_rest, hn]; simp
  · rw [C13.advance_pastEnd]; exact hp

theorem stringLiteral_ok (c : Cur) (t r : Str) (hn : (skipWs c).rest = '\'' :: (prepareTextForDbml t ++ '\'' :: r))
    (hp : c.pastEnd = false) (h1 : C13.oneLine t = true) (h3 : hasTriple t = false)
    (hr : t ≠ [] ∨ r.head? ≠ some '\'') :
    ∃ c', stringLiteral c = .ok t c' ∧ c'.rest = r ∧ c'.pastEnd = false :=
  C13.stringLiteral_ok_one_line c t r hn hp h1 h3 hr

theorem lineEnd_nl (c : Cur) (r : Str) (hn : (skipWs c).rest = '\n' :: r) (hp : c.pastEnd = false) :
    ∃ c', lineEnd c = .ok () c' ∧ c'.rest = r ∧ c'.pastEnd = false := by
  refine ⟨{ skipWs c with prev := some '\n', rest := r }, ?_, rfl, by simpa using hp⟩
  unfold lineEnd
  simp [hp, hn]

theorem stringEnd_eof (c : Cur) (hn : (skipWs c).rest = []) : ∃ c', stringEnd c = .ok () c' := by
  refine ⟨{ skipWs c with pastEnd := true }, ?_⟩
  unfold stringEnd
  simp [hn]

/-- characters a name may hold so that `"name"` is read back unchanged -/
def NameOK (n : Str) : Prop := ∀ c ∈ n, c ≠ '"' ∧ c ≠ '\\' ∧ isLineBreak c = false ∧ c ≠ '\t'

theorem NameOK.tail {x : Char} {r : Str} (h : NameOK (x :: r)) : NameOK r := fun c hc => h c (by simp [hc])

theorem scanName_ok (n rest : Str) (h : NameOK n) : scanName (n ++ '"' :: rest) = some (n, rest) := by
  induction n with
  | nil => simp [scanName]
  | cons x r ih =>
    obtain ⟨h1, _, h3, _⟩ := h x (by simp)
    have hn : x ≠ '\n' := by rintro rfl; simp [isLineBreak] at h3
    have hr : x ≠ '\r' := by rintro rfl; simp [isLineBreak] at h3
    simp only [List.cons_append]
    rw [scanName]
    simp [h1, hn, hr, ih h.tail]

theorem unquote_name (n : Str) (h : NameOK n) : unquote false false n = n := by
  unfold unquote
  induction n with
  | nil => simp [unquoteAux]
  | cons x r ih =>
    rw [C13.unquote_plain _ _ x r (h x (by simp)).2.1, ih h.tail]

theorem name_quoted_ok (c : Cur) (n r : Str) (hn : (skipWs c).rest = '"' :: (n ++ '"' :: r)) (h : NameOK n)
    (hp : c.pastEnd = false) : ∃ c', name c = .ok n c' ∧ c'.rest = r ∧ c'.pastEnd = false := by
  refine ⟨curAfter (skipWs c) r, ?_, ?_, ?_⟩
  · unfold name
    simp only [skipWs_pastEnd, hp, Bool.false_eq_true, ↓reduceIte, hn]
    have : List.takeWhile isNameChar ('"' :: (n ++ '"' :: r)) = [] := by
      simp [List.takeWhile, isNameChar, isAlnum, isAlpha, isDigit]
    simp only [this, List.isEmpty_nil, Bool.not_true, Bool.false_eq_true, ↓reduceIte, scanName_ok n r h,
      unquote_name n h]
  · exact C13.curAfter_rest (skipWs c) ('"' :: n ++ ['"']) r (by rw [hn]; simp)
  · rw [C13.curAfter_pastEnd]; exact hp

/-- what `_` repeats (`Grammar.skipNl`), and below what `_c` repeats (`cBefore`): the terms as they stand there, so that
    `run_skipNl` and `run_cBefore` hold by unfolding -/
def nlBody : P Unit := alt (sym "\n") (do let _ ← comment; pure ())

def cbBody : P (Option Str) :=
  alt (do sym "\n"; pure (none : Option Str)) (do let t ← comment; pure (some t))

theorem run_skipNl {xs : List Unit} {n : Nat} {A B : Cur → Prop}
    (h : ∀ fuel, n < fuel → Run (many nlBody fuel) xs A B) (hn : ∀ c, A c → n ≤ c.rest.length + 1) :
    Run skipNl () A B := .bind (.manyF h hn) .pure

theorem run_cBefore {xs : List (Option Str)} {n : Nat} {A B : Cur → Prop}
    (h : ∀ fuel, n < fuel → Run (many cbBody fuel) xs A B) (hn : ∀ c, A c → n ≤ c.rest.length + 1) :
    Run cBefore (xs.filterMap id) A B := .bind (.manyF h hn) .pure

/-- neither a line break nor a comment starts here: `_` and `_c` stay -/
def Quiet (c : Cur) : Prop := sym "\n" c = .fail ∧ comment c = .fail

theorem Quiet.of_pastEnd {c : Cur} (h : c.pastEnd = true) : Quiet c :=
  ⟨sym_fails toList_nl c (.inl h), comment_fails c (.inl h)⟩

theorem Quiet.of_ws {x : Char} {r : Str} {e : Bool} {c : Cur} (h1 : x ≠ '\n') (h2 : x ≠ '/') (h : AtWsE (x :: r) e c) :
    Quiet c :=
  ⟨sym_fails toList_nl c (.of_ws (by simp [startsWith, Ne.symm h1]) h), comment_fails c (.of_ws (by simp [h2]) h)⟩

theorem Quiet.of_end {c : Cur} (h : AtEnd c) : Quiet c := ⟨sym_fails toList_nl c (.of_end rfl h), comment_fails c (.of_end rfl h)⟩

theorem fails_nlBody : Fails nlBody Quiet := .alt (fun _ h => h.1) (.bind fun _ h => h.2)

theorem fails_cbBody : Fails cbBody Quiet := .alt (.bind fun _ h => h.1) (.bind fun _ h => h.2)

theorem skipNl_stays (c : Cur) (h : Quiet c) : skipNl c = .ok () c :=
  Run.eq (.bind (.manyF_nil (fails_nlBody.pre fun _ e => e ▸ h)) .pure)

theorem cBefore_stays (c : Cur) (h : Quiet c) : cBefore c = .ok [] c :=
  Run.eq (.bind (.manyF_nil (fails_cbBody.pre fun _ e => e ▸ h)) .pure)

theorem skipNl_one (c : Cur) (r : Str) (hn : Next c '\n' r) (hp : c.pastEnd = false)
    (hq : ∀ c1 : Cur, c1.rest = r → c1.pastEnd = false → sym "\n" c1 = .fail ∧ comment c1 = .fail) :
    ∃ c', skipNl c = .ok () c' ∧ c'.rest = r ∧ c'.pastEnd = false := by
  obtain ⟨c1, h1, hr1, hp1⟩ := sym_ok "\n" '\n' toList_nl c r hn hp
  have hlen : c1.rest.length ≠ c.rest.length := by
    have := skipWs_len c
    rw [show (skipWs c).rest = '\n' :: r from hn] at this
    rw [hr1]; simp at this; omega
  exact ⟨c1, Run.eq (.bind (.manyF_one (.alt_left (.of_eq h1 (B := (· = c1)) rfl)) (by rintro _ _ rfl rfl; exact hlen)
    (fails_nlBody.pre fun _ e => e ▸ hq c1 hr1 hp1)) .pure), hr1, hp1⟩

def AtNl (s : Str) (c : Cur) : Prop := At s c ∧ c.prev = some '\n'

theorem AtNl.prev {s : Str} {c : Cur} (h : AtNl s c) : ∀ p, c.prev = some p → isKwIdent p = false := by
  intro p hp; rw [h.2] at hp; cases hp; decide

theorem run_sym_nl_here (r : Str) : Run (sym "\n") () (At ('\n' :: r)) (AtNl r) := fun c hc => by
  refine ⟨advance c 1, ?_, ⟨by rw [C13.advance_rest, hc.1]; rfl, by rw [C13.advance_pastEnd]; exact hc.2⟩,
    advance_one_prev c '\n' r hc.1⟩
  unfold sym litRaw
  simp [skipWs_eq_of_head c '\n' r hc.1 (by decide), hc.1, hc.2, startsWith]

theorem run_cbBody_nl (r : Str) : Run cbBody none (At ('\n' :: r)) (AtNl r) := .alt_left (.bind (run_sym_nl_here r) .pure)

/-- the last clause: a keyword may begin here -/
theorem cBefore_nl (c : Cur) (r : Str) (hc : c.rest = '\n' :: r) (hp : c.pastEnd = false)
    (hq : ∀ c1 : Cur, c1.rest = r → c1.pastEnd = false → sym "\n" c1 = .fail ∧ comment c1 = .fail) :
    ∃ c0, cBefore c = .ok [] c0 ∧ c0.rest = r ∧ c0.pastEnd = false ∧ c0.prev = some '\n' :=
  have h : Run cBefore [] (At ('\n' :: r)) (AtNl r) :=
    .bind (.manyF_one (run_cbBody_nl r) (fun c c' hc hc' => by rw [hc.1, hc'.1.1]; simp)
      (fails_cbBody.pre fun c1 h1 => hq c1 h1.1.1 h1.1.2)) .pure
  let ⟨c0, h, h0⟩ := h c ⟨hc, hp⟩
  ⟨c0, h, h0.1.1, h0.1.2, h0.2⟩

theorem run_lineEnd_eof : Run lineEnd () (At []) (AtE [] true) := fun c hc => by
  refine ⟨{ skipWs c with pastEnd := true }, ?_, skipWs_rest_nil c hc.1, rfl⟩
  unfold lineEnd
  simp [hc.2, skipWs_rest_nil c hc.1]

theorem run_lineEnd_nl (k : Nat) (r : Str) : Run lineEnd () (At (List.replicate k ' ' ++ '\n' :: r)) (At r) := fun c hc =>
  lineEnd_nl c r (skipWs_rest_spaces c k '\n' r hc.1 (by decide)) hc.2

theorem run_endRule_eof : Run endRule () (At []) (AtE [] true) :=
  .alt_left (.bind (.manyF_nil (comment_fails.pre fun c hc => .of_ws rfl (AtWs.of_nil c hc))) run_lineEnd_eof)

theorem run_endRule_nl (r : Str) : Run endRule () (At ('\n' :: r)) (At r) :=
  .alt_left (.bind (.manyF_nil (comment_fails.pre fun c hc => .of_ws rfl (AtWs.of_at 0 (by decide) c hc))) (run_lineEnd_nl 0 r))

theorem run_refEnd_eof : Run (alt lineEnd stringEnd) () (At []) (AtE [] true) := .alt_left run_lineEnd_eof

theorem run_refEnd_nl (r : Str) : Run (alt lineEnd stringEnd) () (At ('\n' :: r)) (At r) := .alt_left (run_lineEnd_nl 0 r)

theorem nameChar_range (c : Char) (h : isNameChar c = true) : 48 ≤ c.toNat ∧ c.toNat ≤ 122 := by
  simp only [isNameChar, isAlnum, isAlpha, isDigit, Bool.or_eq_true, Bool.and_eq_true, decide_eq_true_eq, Char.le_def,
    UInt32.le_iff_toNat_le] at h
  have hc : c.toNat = c.val.toNat := rfl
  -- a small letter, a capital, a digit: a range each; or `_`
  rcases h with ((h | h) | h) | rfl
  iterate 3 (simp only [hc]; simp at h; omega)
  decide

theorem nameChar_ne {x : Char} (h : isNameChar x = true) {y : Char} (hy : y.toNat < 48) : x ≠ y := by
  rintro rfl; have := (nameChar_range _ h).1; omega

theorem nameChar_facts (x : Char) (h : isNameChar x = true) : isWs x = false ∧ x ≠ '\n' ∧ x ≠ '/' :=
  ⟨by simp [isWs, nameChar_ne h (y := ' ') (by decide), nameChar_ne h (y := '\t') (by decide), nameChar_ne h (y := '\r') (by decide)],
    nameChar_ne h (by decide), nameChar_ne h (by decide)⟩

theorem nameChar_not_tab (x : Char) (h : isNameChar x = true) : x ≠ '\t' := nameChar_ne h (by decide)

theorem nameChar_not_lineBreak (c : Char) (h : isNameChar c = true) : isLineBreak c = false := by
  have := nameChar_range c h
  simp only [isLineBreak, Bool.or_eq_false_iff, beq_eq_false_iff_ne]
  omega

theorem nameChar_not_space (c : Char) (h : isNameChar c = true) : isSpaceChar c = false := by
  have := nameChar_range c h
  simp only [isSpaceChar, Bool.or_eq_false_iff, Bool.and_eq_false_iff, decide_eq_false_iff_not, beq_eq_false_iff_ne]
  omega

theorem nameChars_no_tab {n : Str} (h : n.all isNameChar = true) : ∀ c ∈ n, c ≠ '\t' :=
  fun c hc => nameChar_not_tab c (List.all_eq_true.mp h c hc)

theorem expandTabsAux_plain (col : Nat) (s : Str) (h : ∀ c ∈ s, c ≠ '\t') : expandTabsAux col s = s := by
  induction s generalizing col with
  | nil => simp [expandTabsAux]
  | cons x r ih =>
    have hx : x ≠ '\t' := h x (by simp)
    rw [expandTabsAux.eq_def]
    split
    · rename_i heq; cases heq
    · rename_i heq; cases heq; exact absurd rfl hx
    · rename_i heq
      cases heq
      split <;> simp [ih _ (fun c hc => h c (by simp [hc]))]

/-- one line, and no tab: parsing begins with `expandtabs`, which would replace it -/
def Plain (t : Str) : Prop := ∀ c ∈ t, isLineBreak c = false ∧ c ≠ '\t'

instance : DecidablePred Plain := fun t => inferInstanceAs (Decidable (∀ c ∈ t, isLineBreak c = false ∧ c ≠ '\t'))

theorem Plain.nil : Plain [] := fun _ h => nomatch h

theorem Plain.append {a b : Str} (ha : Plain a) (hb : Plain b) : Plain (a ++ b) :=
  fun c hc => (List.mem_append.mp hc).elim (ha c) (hb c)

theorem Plain.cons {x : Char} {a : Str} (hx : isLineBreak x = false ∧ x ≠ '\t') (ha : Plain a) : Plain (x :: a) :=
  fun c hc => (List.mem_cons.mp hc).elim (fun e => e ▸ hx) (ha c)

theorem plain_of_nameChars {n : Str} (h : n.all isNameChar = true) : Plain n :=
  fun c hc => ⟨nameChar_not_lineBreak c (List.all_eq_true.mp h c hc), nameChar_not_tab c (List.all_eq_true.mp h c hc)⟩

theorem NameOK.plain {n : Str} (h : NameOK n) : Plain n := fun c hc => (h c hc).2.2

theorem oneLine_of_plain (t : Str) (ht : Plain t) : C13.oneLine t = true := by
  simp only [C13.oneLine, Bool.not_eq_true', List.any_eq_false, Bool.or_eq_true, decide_eq_true_eq, not_or]
  intro ch hch
  have := (ht ch hch).1
  constructor <;> (rintro rfl; simp [isLineBreak] at this)

theorem containsChar_plain (t : Str) (ht : Plain t) : containsChar '\n' t = false := by
  unfold containsChar
  rw [List.any_eq_false]
  intro c hc
  have := (ht c hc).1
  intro h
  simp at h
  subst h
  simp [isLineBreak] at this

theorem replaceChar_none (a : Char) (b : Str) : ∀ (s : Str), (∀ c ∈ s, c ≠ a) → replaceChar a b s = s
  | [], _ => rfl
  | c :: r, h => by
    have ih := replaceChar_none a b r fun x hx => h x (by simp [hx])
    unfold replaceChar at ih ⊢
    simp [h c (by simp), ih]

theorem doublequote_nameOK (n : Str) (hn : NameOK n) : doublequoteString n = .ok ('"' :: n ++ ['"']) := by
  have hq : ∀ c ∈ n, (decide (c = '"')) = false := fun c hc => by simpa using (hn c hc).1
  have hstrip : stripSet (fun c => decide (c = '"')) n = n := by
    unfold stripSet rstripSet lstripSet
    rw [dropWhile_none _ n hq, dropWhile_none _ n.reverse (by intro c hc; exact hq c (by simpa using hc))]
    simp
  unfold doublequoteString
  simp only [containsChar_plain n hn.plain, Bool.false_eq_true, ↓reduceIte]
  rw [hstrip, replaceChar_none _ _ n fun c hc => (hn c hc).1]

theorem quoteString_plain (t : Str) (ht : Plain t) : quoteString t = '\'' :: prepareTextForDbml t ++ ['\''] := by
  unfold quoteString; rw [containsChar_plain t ht]; rfl

theorem prepare_mem (t : Str) : ∀ c ∈ prepareTextForDbml t, c ∈ t ∨ c = '\\' := by
  fun_induction prepareTextForDbml t <;> intro c hc <;> simp only [List.mem_cons, List.not_mem_nil] at hc ⊢ <;> grind

theorem forall_mem_prepare {P : Char → Prop} {t : Str} (hb : P '\\') (h : ∀ c ∈ t, P c) :
    ∀ c ∈ prepareTextForDbml t, P c := fun c hc => (prepare_mem t c hc).elim (h c) (· ▸ hb)

theorem Plain.prepare {t : Str} (ht : Plain t) : Plain (prepareTextForDbml t) := forall_mem_prepare (by decide) ht

theorem Plain.quoted {t : Str} (ht : Plain t) : Plain ('\'' :: (prepareTextForDbml t ++ ['\''])) :=
  .cons (by decide) (ht.prepare.append (by decide))

theorem indent4_quoteString (t : Str) (ht : Plain t) :
    Dbml.indent4 (quoteString t) = [' ', ' ', ' ', ' '] ++ ('\'' :: prepareTextForDbml t ++ ['\'']) := by
  rw [quoteString_plain t ht]
  exact textwrapIndent_line _ _ (fun c hc => (ht.quoted c hc).1) rfl

theorem roundtrip_of (ap : Bool) (db : Db) (text : Str) (es : List Bp.Elem) (hr : Dbml.renderDb db = .ok text)
    (hp : ∃ c', parseDoc ap text = .ok es c') (hbom : removeBom text = text) (hb : buildDatabase ap es = .ok db) :
    ∃ text, Dbml.renderDb db = .ok text ∧ Build.parse ap text = .ok db := by
  obtain ⟨c', hp⟩ := hp
  exact ⟨text, hr, by simp only [Build.parse, hbom, hp, hb]⟩

end C02
end PyDBML
