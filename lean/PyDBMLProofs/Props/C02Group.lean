/-
C01/C02/C05 — table groups: `TableGroup "g" {` + one quoted table name per line + `}`; the rule for a keyword and a name in
any spelling and the element form.
-/
import PyDBMLProofs.Props.C02Doc
import PyDBMLProofs.Props.C02Spelling
namespace PyDBML
namespace C02
open Lex Grammar Build

def memberLines : List Str → Str
  | [] => []
  | n :: r => ' ' :: ' ' :: ' ' :: ' ' :: '"' :: (n ++ '"' :: '\n' :: memberLines r)

def groupText (g : Str) (ns : List Str) : Str :=
  'T' :: 'a' :: 'b' :: 'l' :: 'e' :: 'G' :: 'r' :: 'o' :: 'u' :: 'p' :: ' ' :: '"' :: (g ++ '"' :: ' ' :: '{' :: '\n' ::
    (memberLines ns ++ ['}']))

def groupBpOf (g : Str) (ns : List Str) : Bp.GroupBp := { name := g, items := ns }

theorem endOK_members (ns : List Str) (tail : Str) : EndOK (memberLines ns ++ '}' :: tail) := by
  cases ns with
  | nil => exact endOK_brace tail
  | cons n r => simpa [memberLines] using endOK_at 4 '"' (n ++ '"' :: '\n' :: (memberLines r ++ '}' :: tail)) (by decide)

theorem fails_noteElement (k : Nat) (x : Char) (r : Str) (hw : isWs x = false) (hx : (pyUpper1 'n' == pyUpper1 x) = false) :
    Fails noteElement (At (List.replicate k ' ' ++ x :: r)) :=
  .alt (.bind (fails_clit_head toList_noteC k x r hw hx)) (.bind (fails_ckw_head toList_note k x r hw hx))

/-- the first alternative of `table_name` (schema, dot, name, no blank between them) reads the same name and stops at the
    missing dot -/
theorem run_groupTableName (k : Nat) (n : Str) (x : Char) (r : Str) (hx : x ≠ '.') (hok : NameOK n) :
    Run groupTableName n (At (List.replicate k ' ' ++ '"' :: (n ++ '"' :: x :: r))) (At (x :: r)) := by
  unfold groupTableName
  exact .alt_right
    (.skipWs (.bind_after (run_nameRaw (by decide) (run_nameQ 0 n _ hok)) (.bind (fails_litRaw (by simp [startsWith, Ne.symm hx]))))
      (at_skipWs k (by decide)))
    (run_nameQ k n _ hok)

theorem fails_groupTableName_brace (tail : Str) : Fails groupTableName (At ('}' :: tail)) := by
  have h := fails_name (e := false) 0 '}' tail (by decide) (by decide) (by decide)
  unfold groupTableName
  exact .alt (.skipWs (.bind (fails_nameRaw (by decide) h)) (at_skipWs 0 (by decide))) h

theorem run_member (n : Str) (ns : List Str) (tail : Str) (hn : NameOK n) :
    Run tgElement (GrpElem.item n) (At (memberLines (n :: ns) ++ '}' :: tail)) (At (memberLines ns ++ '}' :: tail)) := by
  rw [show memberLines (n :: ns) ++ '}' :: tail
      = List.replicate 4 ' ' ++ '"' :: (n ++ '"' :: '\n' :: (memberLines ns ++ '}' :: tail)) by simp [memberLines]]
  refine .bind (stay_skipNl (endOK_at 4 '"' _ (by decide))) ?_
  refine .bind (.alt_right (.bind (fails_noteElement 4 '"' _ (by decide) (by decide)))
    (.bind (run_groupTableName 4 n '\n' _ (by decide) hn) .pure)) ?_
  exact .bind (run_skipNl_nl 0 (endOK_members ns tail)) .pure

theorem fails_tgElement_brace (tail : Str) : Fails tgElement (At ('}' :: tail)) :=
  .bind_after (stay_skipNl (endOK_brace tail))
    (.bind (.alt (.bind (fails_noteElement 0 '}' tail (by decide) (by decide))) (.bind (fails_groupTableName_brace tail))))

theorem run_tableGroupRule {A Q : Cur → Prop} {others : List Char} (kw nm g : Str) (ns : List Str) (post : Str)
    (hkw : KwFactsG (lit "TableGroup") others kw = true) (hg : Spells nm g) (hns : ∀ n ∈ ns, NameOK n)
    (hb : Run cBefore [] A (At (kw ++ ' ' :: (nm ++ ' ' :: '{' :: '\n' :: (memberLines ns ++ '}' :: post)))))
    (hend : Run endRule () (At post) Q) : Run tableGroupRule (groupBpOf g ns) A Q := by
  refine .bind hb ?_
  refine .bind (run_kwG hkw _) (.cut ?_)
  refine .bind (hg.run 1 _) ?_
  refine .bind (stay_skipNl (endOK_at 1 '{' _ (by decide))) ?_
  refine .bind (.opt_none (.bind (fails_sym toList_lbrack 1 '{' _ (by decide) (by decide)))) ?_
  refine .bind (stay_skipNl (endOK_at 1 '{' _ (by decide))) ?_
  refine .bind (run_lbrace 1 _) ?_
  refine .bind (run_skipNl_nl 0 (endOK_members ns post)) ?_
  refine .bind (.manyF_list_stop GrpElem.item (fun ys => memberLines ys ++ '}' :: post) (fun _ => false) NameOK
    (fun x ys hx => run_member x ys post hx) (fun x ys => by simp [memberLines] <;> omega) (fails_tgElement_brace post) ns hns) ?_
  refine .bind (stay_skipNl (endOK_brace post)) ?_
  refine .bind (run_rbrace 0 _) ?_
  refine .bind hend ?_
  rw [filterMap_map_some ns GrpElem.item _ id (fun _ => rfl), foldl_map_skip ns GrpElem.item _ (fun _ _ => rfl), List.map_id]
  exact .pure_eq rfl

/-- the sixth character is a keyword character: after five letters `table`, `CaselessKeyword('table')` does not match -/
def KwGroupShape (kw : Str) : Bool :=
  match kw with
  | _ :: _ :: _ :: _ :: _ :: g :: _ => isKwIdent g
  | _ => false

theorem kwGroupShape_elim {kw : Str} (h : KwGroupShape kw = true) :
    ∃ a b c d e g r, kw = a :: b :: c :: d :: e :: g :: r ∧ isKwIdent g = true := by
  unfold KwGroupShape at h
  split at h
  · exact ⟨_, _, _, _, _, _, _, rfl, h⟩
  · cases h

/-- no `'t'` among the others: the table rule is refuted by the sixth character (`KwGroupShape`), not by the first -/
theorem kwFactsG_TableGroup : (KwFactsG (lit "TableGroup") ['r', 'e'] ['T', 'a', 'b', 'l', 'e', 'G', 'r', 'o', 'u', 'p']
    && KwGroupShape ['T', 'a', 'b', 'l', 'e', 'G', 'r', 'o', 'u', 'p']) = true := by decide +kernel

theorem tableGroupRule_okP (c c0 : Cur) (g : Str) (ns : List Str) (post : Str) (Q : Cur → Prop)
    (hb : cBefore c = .ok [] c0) (hc : c0.rest = groupText g ns ++ post) (hp : c0.pastEnd = false)
    (hg : NameOK g) (hns : ∀ n ∈ ns, NameOK n)
    (hend : ∀ c7 : Cur, c7.rest = post → c7.pastEnd = false → ∃ c9, endRule c7 = .ok () c9 ∧ Q c9) :
    ∃ c9, tableGroupRule c = .ok (groupBpOf g ns) c9 ∧ Q c9 :=
  run_tableGroupRule ['T', 'a', 'b', 'l', 'e', 'G', 'r', 'o', 'u', 'p'] ('"' :: (g ++ ['"'])) g ns post
    (Bool.and_eq_true_iff.mp kwFactsG_TableGroup).1 (spells_quoted g hg) hns
    (.of_eq hb ⟨by rw [hc]; simp [groupText], hp⟩) (.of_at hend) c rfl

theorem fails_ckw_table_kwIdent (a b c d e g : Char) (r : Str) (hg : isKwIdent g = true) :
    Fails (ckw "table") (fun c0 => (skipWs c0).rest = a :: b :: c :: d :: e :: g :: r) := fun c0 hr => by
  unfold ckw
  simp only [hr]
  have hadv : (advance (skipWs c0) "table".length).rest = g :: r := by
    rw [C13.advance_rest, hr]; rfl
  simp only [hadv]
  simp [hg]

theorem ckw_table_fail_group (c0 : Cur) (r : Str) (hr : (skipWs c0).rest = 'T' :: 'a' :: 'b' :: 'l' :: 'e' :: 'G' :: r) :
    ckw "table" c0 = .fail := fails_ckw_table_kwIdent _ _ _ _ _ 'G' r (by decide) c0 hr

theorem memberLines_no_tab : ∀ (ns : List Str), (∀ n ∈ ns, NameOK n) → ∀ c ∈ memberLines ns, c ≠ '\t'
  | [], _ => by simp [memberLines]
  | n :: r, h => by
    simp only [memberLines, List.forall_mem_cons, List.forall_mem_append, ne_eq, Char.reduceEq, not_false_eq_true, true_and]
    exact ⟨fun c hc => (h n (by simp) c hc).2.2.2, memberLines_no_tab r fun q hq => h q (by simp [hq])⟩

/-- the table rule, tried first, fails by `KwGroupShape` -/
theorem groupE_parse (ap : Bool) (g : Str) (ns : List Str) (kw nm : Str)
    (hkw : (KwFactsG (lit "TableGroup") ['r', 'e'] kw && KwGroupShape kw) = true) (hnm : Spells nm g) (hns : ∀ n ∈ ns, NameOK n)
    (d : Char) (c c0 : Cur) (post : Str) (hb : cBefore c = .ok (cmList none) c0)
    (hr0 : c0.rest = kw.headD d :: (kw.tail ++ ' ' :: (nm ++ ' ' :: '{' :: '\n' :: (memberLines ns ++ ['}'])) ++ post))
    (hp0 : c0.pastEnd = false) (hends : EndsOK post) :
    ∃ c9, element ap c = .ok (Bp.Elem.group (groupBpOf g ns)) c9 ∧ After post c9 := by
  have hG := (Bool.and_eq_true_iff.mp hkw).1
  obtain ⟨a, b1, b2, b3, b4, g5, r6, rfl, hg5⟩ := kwGroupShape_elim (Bool.and_eq_true_iff.mp hkw).2
  have hb' : Run cBefore [] (· = c) (At ((a :: b1 :: b2 :: b3 :: b4 :: g5 :: r6) ++ ' ' :: (nm ++ ' ' :: '{' :: '\n' ::
      (memberLines ns ++ '}' :: post)))) := .of_eq hb ⟨by rw [hr0]; simp, hp0⟩
  have f := kwG_rules_fail (ap := ap) hG d hb' (fun _ h => h)
  have htab : Fails (tableRule ap) (· = c) := fails_tableRule hb'
    ((fails_ckw_table_kwIdent a b1 b2 b3 b4 g5 _ hg5).pre fun c hc => skipWs_rest_head c _ _ hc.1 (kwG_head hG d).1.1)
  exact run_element_group htab (f.2.1 (by decide)) (f.2.2.1 (by decide))
    (run_tableGroupRule _ nm g ns post hG hnm hns hb' (run_endRule_after hends)) c rfl

/-- the members are given by the NAMES they are written with -/
def groupE (ap : Bool) (g : Str) (ns : List Str) (hg : NameOK g) (hns : ∀ n ∈ ns, NameOK n) : EForm ap where
  pre := none
  head := 'T'
  body := (groupText g ns).tail
  elem := Bp.Elem.group (groupBpOf g ns)
  headOK := by decide
  headAscii := by decide
  preOK := trivial
  noTab := by
    simp only [groupText, List.tail_cons, List.forall_mem_cons, List.forall_mem_append, List.mem_nil_iff, false_imp_iff, implies_true, ne_eq,
      Char.reduceEq, not_false_eq_true, true_and, and_true]
    exact ⟨fun c h => (hg c h).2.2.2, memberLines_no_tab ns hns⟩
  parse := by
    intro c c0 post hb hr0 hp0 _ hends
    obtain ⟨c9, h⟩ := groupE_parse ap g ns ['T', 'a', 'b', 'l', 'e', 'G', 'r', 'o', 'u', 'p'] ('"' :: (g ++ ['"'])) kwFactsG_TableGroup
      (spells_quoted g hg) hns 'T' c c0 post hb (by rw [hr0]; simp [groupText]) hp0 hends
    exact ⟨c9, h⟩

theorem groupE_text (ap : Bool) (g : Str) (ns : List Str) (hg : NameOK g) (hns : ∀ n ∈ ns, NameOK n) :
    (groupE ap g ns hg hns).text = groupText g ns := by
  simp [EForm.text, groupE, commentText, groupText]

end C02
end PyDBML
