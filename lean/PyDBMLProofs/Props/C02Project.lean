/-
C01/C02 — the project: `Project "name" {` + one `key: 'value'` line per item + `}`; the rule for a keyword and a name in any
spelling, the element form, the rendering.
-/
import PyDBMLProofs.Props.C02Doc
import PyDBMLProofs.Props.C02Spelling
namespace PyDBML
namespace C02
open Lex Grammar Build

/-- a bare identifier that does not begin (in any letter case) with `note`: such a key is read as the project's note -/
def PKeyOK (k : Str) : Prop :=
  k ≠ [] ∧ k.all isNameChar = true ∧ ∀ r, startsWithCaseless (k ++ r) "note".toList = false

def fieldLines : List (Str × Str) → Str
  | [] => []
  | (k, v) :: r => ' ' :: ' ' :: ' ' :: ' ' :: (k ++ ':' :: ' ' :: '\'' :: (prepareTextForDbml v ++ '\'' :: '\n' :: fieldLines r))

def projectText (n : Str) (items : List (Str × Str)) : Str :=
  'P' :: 'r' :: 'o' :: 'j' :: 'e' :: 'c' :: 't' :: ' ' :: '"' :: (n ++ '"' :: ' ' :: '{' :: '\n' :: (fieldLines items ++ ['}']))

def projectBpOf (n : Str) (items : List (Str × Str)) : Bp.ProjectBp := { name := n, items := items }

theorem endOK_fields (items : List (Str × Str)) (hk : ∀ kv ∈ items, PKeyOK kv.1) (tail : Str) :
    EndOK (fieldLines items ++ '}' :: tail) := by
  cases items with
  | nil => exact endOK_brace tail
  | cons kv r =>
    obtain ⟨k, v⟩ := kv
    obtain ⟨hne, hall, _⟩ := hk (k, v) (by simp)
    obtain ⟨a, as, rfl⟩ := List.exists_cons_of_ne_nil hne
    have ha : isNameChar a = true := by simp only [List.all_cons, Bool.and_eq_true] at hall; exact hall.1
    simpa [fieldLines] using endOK_at 4 a (as ++ ':' :: ' ' :: '\'' :: (prepareTextForDbml v ++ '\'' :: '\n' :: (fieldLines r ++ '}' :: tail)))
      (nameChar_facts a ha)

theorem run_field (k v : Str) (items : List (Str × Str)) (tail : Str) (hk : PKeyOK k) (hks : ∀ kv ∈ items, PKeyOK kv.1)
    (hv : Plain v) (h3 : hasTriple v = false) :
    Run projectElement (PrjElem.field k v) (At (fieldLines ((k, v) :: items) ++ '}' :: tail)) (At (fieldLines items ++ '}' :: tail)) := by
  obtain ⟨hne, hall, hnote⟩ := hk
  obtain ⟨a, as, rfl⟩ := List.exists_cons_of_ne_nil hne
  have ha : isNameChar a = true := by simp only [List.all_cons, Bool.and_eq_true] at hall; exact hall.1
  have hq := nameChar_facts a ha
  rw [show fieldLines ((a :: as, v) :: items) ++ '}' :: tail = List.replicate 4 ' ' ++ a :: (as ++ ':' :: ' ' :: '\'' ::
      (prepareTextForDbml v ++ '\'' :: '\n' :: (fieldLines items ++ '}' :: tail))) by simp [fieldLines]]
  have hpf : Run projectField (a :: as, v)
      (At (List.replicate 4 ' ' ++ a :: (as ++ ':' :: ' ' :: '\'' :: (prepareTextForDbml v ++ '\'' :: '\n' :: (fieldLines items ++ '}' :: tail)))))
      (At ('\n' :: (fieldLines items ++ '}' :: tail))) := by
    refine .bind (run_name 4 a as _ hall (by intro y hy; cases hy; decide)) ?_
    refine .bind (stay_skipNl (endOK_at 0 ':' _ (by decide))) ?_
    refine .bind (run_sym toList_colon (by decide) 0 _) ?_
    refine .bind (stay_skipNl (endOK_at 1 '\'' _ (by decide))) ?_
    exact .bind (.cut (run_string 1 v _ (oneLine_of_plain v hv) h3 (Or.inr (by simp)))) .pure
  refine .bind (stay_skipNl (endOK_at 4 a _ hq)) ?_
  refine .bind (.alt_right (.bind (.bind (fails_clit toList_noteC 4 a _ hq.1
      (by simpa [toList_note] using swc_false_of_prefix _ "note".toList [':'] (hnote (':' :: ' ' :: '\'' :: _))))))
    (.alt_right (.bind (.bind (fails_ckw rfl 4 a _ hq.1 (by simpa using hnote _)))) (.bind hpf .pure))) ?_
  exact .bind (run_skipNl_nl 0 (endOK_fields items hks tail)) .pure

theorem fails_projectElement_brace (tail : Str) : Fails projectElement (At ('}' :: tail)) :=
  .bind_after (stay_skipNl (endOK_brace tail))
    (.bind (.alt (.bind (.bind (fails_clit_head toList_noteC 0 '}' tail (by decide) (by decide))))
      (.alt (.bind (.bind (fails_ckw_head toList_note 0 '}' tail (by decide) (by decide))))
        (.bind (.bind (fails_name 0 '}' tail (by decide) (by decide) (by decide)))))))

/-- Not an instance of `Run.manyF_list_stop`: after a field line `_` must stay, which asks `PKeyOK` of the key of the NEXT
    line (`endOK_fields`); a condition on the item read cannot say that, so the state carries `PKeyOK` of the remaining keys. -/
theorem run_fields (items : List (Str × Str)) (tail : Str) (hk : ∀ kv ∈ items, PKeyOK kv.1)
    (hv : ∀ kv ∈ items, Plain kv.2 ∧ hasTriple kv.2 = false) :
    Run (manyF projectElement) (items.map fun kv => PrjElem.field kv.1 kv.2) (At (fieldLines items ++ '}' :: tail))
      (At ('}' :: tail)) := by
  have hlen : ∀ (x : Str × Str) ys, (fieldLines ys ++ '}' :: tail).length < (fieldLines (x :: ys) ++ '}' :: tail).length := by
    intro ⟨k, v⟩ ys; simp [fieldLines]; omega
  refine ((Run.manyF (n := items.length) (fun fuel hf => Run.many_list_stop (fun kv : Str × Str => PrjElem.field kv.1 kv.2)
      (fun ys c => At (fieldLines ys ++ '}' :: tail) c ∧ ∀ kv ∈ ys, PKeyOK kv.1) (fun kv => Plain kv.2 ∧ hasTriple kv.2 = false)
      ?_ (fun x ys c c' h h' => AtE.prog (Nat.ne_of_lt (hlen x ys)) c c' h.1 h'.1)
      (fun c hc => fails_projectElement_brace tail c hc.1) items hv fuel hf) ?_).pre (fun c hc => ⟨hc, hk⟩)).post (fun c hc => hc.1)
  · intro ⟨k, v⟩ ys hx c ⟨hc, hks⟩
    obtain ⟨c', h, hc'⟩ := run_field k v ys tail (hks (k, v) (by simp)) (fun q hq => hks q (by simp [hq])) hx.1 hx.2 c hc
    exact ⟨c', h, hc', fun q hq => hks q (by simp [hq])⟩
  · intro c hc
    have := length_le_of_shrinks (fun ys => fieldLines ys ++ '}' :: tail) hlen items
    rw [hc.1.1]; omega

theorem run_projectRule {A Q : Cur → Prop} {others : List Char} (kw nm n : Str) (items : List (Str × Str)) (post : Str)
    (hkw : KwFactsG (lit "project") others kw = true) (hn : Spells nm n)
    (hk : ∀ kv ∈ items, PKeyOK kv.1) (hv : ∀ kv ∈ items, Plain kv.2 ∧ hasTriple kv.2 = false)
    (hd : items.Pairwise (fun a b => a.1 ≠ b.1))
    (hb : Run cBefore [] A (At (kw ++ ' ' :: (nm ++ ' ' :: '{' :: '\n' :: (fieldLines items ++ '}' :: post)))))
    (hend : Run (alt lineEnd stringEnd) () (At post) Q) : Run projectRule (projectBpOf n items) A Q := by
  refine .bind hb ?_
  refine .bind (run_kwG hkw _) ?_
  refine .bind (stay_skipNl (endOK_spelt hn 1 _)) (.cut ?_)
  refine .bind (hn.run 1 _) ?_
  refine .bind (stay_skipNl (endOK_at 1 '{' _ (by decide))) ?_
  refine .bind (run_lbrace 1 _) ?_
  refine .bind (run_skipNl_nl 0 (endOK_fields items hk post)) ?_
  refine .bind (run_fields items post hk hv) ?_
  refine .bind (stay_skipNl (endOK_brace post)) ?_
  refine .bind (run_rbrace 0 _) ?_
  refine .bind hend ?_
  rw [filterMap_map_some items (fun kv => PrjElem.field kv.1 kv.2) _ id (fun _ => rfl),
    foldl_map_skip items (fun kv => PrjElem.field kv.1 kv.2) _ (fun _ _ => rfl), List.map_id]
  exact .pure_eq (by simp [projectBpOf, dictOf_distinct items hd, joinBefore])

theorem kwFactsG_Project : KwFactsG (lit "project") ['t', 'r', 'e'] ['P', 'r', 'o', 'j', 'e', 'c', 't'] = true := by
  decide +kernel

theorem projectRule_okP (c c0 : Cur) (n : Str) (items : List (Str × Str)) (post : Str) (Q : Cur → Prop)
    (hb : cBefore c = .ok [] c0) (hc : c0.rest = projectText n items ++ post) (hp : c0.pastEnd = false)
    (hn : NameOK n) (hk : ∀ kv ∈ items, PKeyOK kv.1) (hv : ∀ kv ∈ items, Plain kv.2 ∧ hasTriple kv.2 = false)
    (hd : items.Pairwise (fun a b => a.1 ≠ b.1))
    (hend : ∀ c7 : Cur, c7.rest = post → c7.pastEnd = false → ∃ c9, (alt lineEnd stringEnd) c7 = .ok () c9 ∧ Q c9) :
    ∃ c9, projectRule c = .ok (projectBpOf n items) c9 ∧ Q c9 :=
  run_projectRule ['P', 'r', 'o', 'j', 'e', 'c', 't'] ('"' :: (n ++ ['"'])) n items post kwFactsG_Project (spells_quoted n hn)
    hk hv hd (.of_eq hb ⟨by rw [hc]; simp [projectText], hp⟩) (.of_at hend) c rfl

structure ProjectOK (n : Str) (items : List (Str × Str)) : Prop where
  name : NameOK n
  ne : items ≠ []
  keys : ∀ kv ∈ items, PKeyOK kv.1
  values : ∀ kv ∈ items, Plain kv.2 ∧ hasTriple kv.2 = false
  distinct : items.Pairwise (fun a b => a.1 ≠ b.1)

theorem fieldLines_no_tab : ∀ (items : List (Str × Str)), (∀ kv ∈ items, PKeyOK kv.1) → (∀ kv ∈ items, Plain kv.2 ∧ hasTriple kv.2 = false) →
    ∀ c ∈ fieldLines items, c ≠ '\t'
  | [], _, _ => by simp [fieldLines]
  | (k, v) :: r, hk, hv => by
    simp only [fieldLines, List.forall_mem_cons, List.forall_mem_append, ne_eq, Char.reduceEq, not_false_eq_true, true_and]
    exact ⟨nameChars_no_tab (hk (k, v) (by simp)).2.1, forall_mem_prepare (by decide) fun c hc => ((hv (k, v) (by simp)).1 c hc).2,
      fieldLines_no_tab r (fun q hq => hk q (by simp [hq])) (fun q hq => hv q (by simp [hq]))⟩

theorem projectE_parse (ap : Bool) (n : Str) (items : List (Str × Str)) (kw nm : Str)
    (hkw : KwFactsG (lit "project") ['t', 'r', 'e'] kw = true) (hnm : Spells nm n) (h : ProjectOK n items) (d : Char)
    (c c0 : Cur) (post : Str) (hb : cBefore c = .ok (cmList none) c0)
    (hr0 : c0.rest = kw.headD d :: (kw.tail ++ ' ' :: (nm ++ ' ' :: '{' :: '\n' :: (fieldLines items ++ ['}'])) ++ post))
    (hp0 : c0.pastEnd = false) (hends : EndsOK post) :
    ∃ c9, element ap c = .ok (Bp.Elem.project (projectBpOf n items)) c9 ∧ After post c9 := by
  obtain ⟨_, _, _, k, ks, rfl, _⟩ := kwFactsG_elim _ _ _ hkw
  have hb' : Run cBefore [] (· = c) (At ((k :: ks) ++ ' ' :: (nm ++ ' ' :: '{' :: '\n' :: (fieldLines items ++ '}' :: post)))) :=
    .of_eq hb ⟨by rw [hr0]; simp, hp0⟩
  have f := kwG_rules_fail (ap := ap) hkw d hb' (fun _ h => h)
  exact run_element_project (f.1 (by decide)) (f.2.1 (by decide)) (f.2.2.1 (by decide)) (f.2.2.2.1 (by decide))
    (run_projectRule _ nm n items post hkw hnm h.keys h.values h.distinct hb' (run_refEnd_after hends)) c rfl

def projectE (ap : Bool) (n : Str) (items : List (Str × Str)) (h : ProjectOK n items) : EForm ap where
  pre := none
  head := 'P'
  body := (projectText n items).tail
  elem := Bp.Elem.project (projectBpOf n items)
  headOK := by decide
  headAscii := by decide
  preOK := trivial
  noTab := by
    simp only [projectText, List.tail_cons, List.forall_mem_cons, List.forall_mem_append, List.mem_nil_iff, false_imp_iff, implies_true, ne_eq,
      Char.reduceEq, not_false_eq_true, true_and, and_true]
    exact ⟨fun c hc => (h.name c hc).2.2.2, fieldLines_no_tab items h.keys h.values⟩
  parse := by
    intro c c0 post hb hr0 hp0 _ hends
    obtain ⟨c9, h⟩ := projectE_parse ap n items ['P', 'r', 'o', 'j', 'e', 'c', 't'] ('"' :: (n ++ ['"'])) kwFactsG_Project
      (spells_quoted n h.name) h 'P' c c0 post hb (by rw [hr0]; simp [projectText]) hp0 hends
    exact ⟨c9, h⟩

theorem projectE_text (ap : Bool) (n : Str) (items : List (Str × Str)) (h : ProjectOK n items) :
    (projectE ap n items h).text = projectText n items := by
  simp [EForm.text, projectE, commentText, projectText]

def fieldStr (kv : Str × Str) : Str := kv.1 ++ ':' :: ' ' :: '\'' :: (prepareTextForDbml kv.2 ++ ['\''])

theorem fieldStr_plain (kv : Str × Str) (hk : PKeyOK kv.1) (hv : Plain kv.2) : Plain (fieldStr kv) :=
  (plain_of_nameChars hk.2.1).append (.cons (by decide) (.cons (by decide) hv.quoted))

theorem fieldLines_eq : ∀ (items : List (Str × Str)),
    ((items.map fieldStr).flatMap fun l => [' ', ' ', ' ', ' '] ++ l ++ ['\n']) = fieldLines items
  | [] => rfl
  | (k, v) :: r => by simp [fieldLines, fieldStr, ← fieldLines_eq r]

theorem renderProject_ok (n : Str) (items : List (Str × Str)) (h : ProjectOK n items) :
    Dbml.renderProject { name := n, items := items } = .ok (projectText n items) := by
  have hq : doublequoteString n = .ok ('"' :: n ++ ['"']) := doublequote_nameOK n h.name
  have hitems : (items.flatMap fun (kv : Str × Str) =>
      if containsChar '\n' kv.2 then kv.1 ++ lit ": \'\'\'" ++ prepareTextForDbml kv.2 ++ lit "\'\'\'\n"
      else kv.1 ++ lit ": '" ++ prepareTextForDbml kv.2 ++ lit "'\n") = (items.map fieldStr).flatMap fun l => l ++ ['\n'] := by
    rw [List.flatMap_map]
    apply flatMap_congr_mem
    intro kv hkv
    simp [containsChar_plain kv.2 (h.values kv hkv).1, fieldStr, lit]
  have hne : items.map fieldStr ≠ [] := by simpa using h.ne
  have hstrip := rstrip_nl_lines (items.map fieldStr) hne fun l hl => by
    obtain ⟨kv, _, rfl⟩ := List.mem_map.mp hl
    exact ⟨kv.1 ++ ':' :: ' ' :: '\'' :: prepareTextForDbml kv.2, '\'', by simp [fieldStr], by decide⟩
  have hbody : Dbml.indent4 (joinNL (items.map fieldStr)) ++ ['\n'] = fieldLines items := by
    rw [indent4_lines (items.map fieldStr) hne, fieldLines_eq]
    · exact List.forall_mem_map.mpr fun kv hkv c hc => (fieldStr_plain kv (h.keys kv hkv) (h.values kv hkv).1 c hc).1
    · refine List.forall_mem_map.mpr fun kv hkv => ?_
      obtain ⟨hk, hall, _⟩ := h.keys kv hkv
      obtain ⟨a, as, e⟩ := List.exists_cons_of_ne_nil hk
      exact ⟨a, as ++ ':' :: ' ' :: '\'' :: (prepareTextForDbml kv.2 ++ ['\'']), by simp [fieldStr, e],
        nameChar_not_space a (List.all_eq_true.mp hall a (by simp [e]))⟩
  unfold Dbml.renderProject
  simp only [hq, Dbml.liftPy, bind, Except.bind, pure, Except.pure, hitems, hstrip, hbody]
  simp [projectText, Dbml.optComment, lit]

end C02
end PyDBML
