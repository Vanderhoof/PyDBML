/-
C01/C02/C05/C14/C15 — whole documents: a project, enums, tables (columns in any form that is read back), inline and
standalone references between their columns, table groups over these tables, sticky notes - rendered and read back to the
same database.
-/
import PyDBMLProofs.Props.C02Group
import PyDBMLProofs.Props.C02Sticky
import PyDBMLProofs.Props.C02FlagsTables
import PyDBMLProofs.Props.C02Inline
import PyDBMLProofs.Props.C02Project
import PyDBMLProofs.Props.C02EnumNote
namespace PyDBML
namespace C02
open Lex Grammar Build

variable {σ : Type}

structure DocSpec (σ : Type) where
  enums : List ESpecN := []
  tables : List (FTab σ)
  /-- the references written inline, among the settings of their first column, in document order -/
  inl : List RSpec := []
  refs : List RSpec := []
  /-- a name and the POSITIONS of the member tables -/
  groups : List (Str × List Nat) := []
  sticky : List Sticky := []
  project : Option (Str × List (Str × Str)) := none

def mkProject (p : Str × List (Str × Str)) : Project := { name := p.1, items := p.2 }

/-- `mkEnumN` under the name the definitions of documents use -/
def mkEnum (e : ESpecN) : Enum := mkEnumN e

theorem mkEnum_eq (e : ESpecN) : mkEnum e = mkEnumN e := rfl

def mkGroup (g : Str × List Nat) : Group := { name := g.1, items := g.2 }

def ColForm.gnames (F : ColForm σ) (ts : List (FTab σ)) (g : Str × List Nat) : List Str := g.2.map (F.tnameAt ts)

def DocSpec.db (F : ColForm σ) (ap : Bool) (d : DocSpec σ) : Db :=
  { enums := d.enums.map mkEnum, tables := d.tables.map F.mkTable,
    refs := d.inl.map (fun r => mkRefB (r, true)) ++ d.refs.map mkRef,
    groups := d.groups.map mkGroup, sticky := d.sticky, project := d.project.map mkProject, allowProps := ap }

structure DocOK (F : ColForm σ) (ap : Bool) (d : DocSpec σ) : Prop where
  enums : ∀ e ∈ d.enums, ESpecNOK e
  /-- enum names are pairwise different (all enums are in schema public) -/
  enumNames : d.enums.Pairwise (fun a b => a.1 ≠ b.1)
  tables : ∀ t ∈ d.tables, F.specOK ap t
  tablesNe : d.tables ≠ []
  colNames : ∀ t ∈ d.tables, ∀ s ∈ t.cols, NameOK (F.cname s)
  resolvable : F.Resolvable d.tables
  /-- no column's type text names a declared enum (it would then hold the enum) -/
  noShadow : ∀ t ∈ d.tables, F.noShadow (d.enums.map mkEnum) t
  refsIn : ∀ r ∈ d.refs, F.RSpecIn d.tables r
  inlIn : ∀ r ∈ d.inl, F.RSpecIn d.tables r
  /-- a many-to-many reference is never shown inline (`Reference.inline`) -/
  inlKind : ∀ r ∈ d.inl, r.kind ≠ .manyToMany
  /-- what the columns write inline, in document order, are the names of the inline references -/
  inlWritten : F.written d.tables = d.inl.map (F.iwritten d.tables)
  /-- no two references, inline or standalone, between the same columns with the same kind -/
  refsNodup : (d.inl ++ d.refs).Nodup
  groups : ∀ g ∈ d.groups, NameOK g.1 ∧ g.2.Nodup ∧ ∀ i ∈ g.2, i < d.tables.length
  groupNames : d.groups.Pairwise (fun a b => a.1 ≠ b.1)
  sticky : ∀ s ∈ d.sticky, StickyOK s
  project : ∀ p ∈ d.project.toList, ProjectOK p.1 p.2

theorem filterMap_const_none {α β : Type} (l : List α) : l.filterMap (fun _ => (none : Option β)) = [] := by
  simp

theorem rtext_ok (F : ColForm σ) (ap : Bool) (d : DocSpec σ) (h : DocOK F ap d) :
    ∀ x ∈ d.refs.map (F.rtext d.tables), RTextOK x :=
  F.rtext_ok ap d.tables d.refs h.tables h.colNames h.refsIn

theorem gnames_ok (F : ColForm σ) (ap : Bool) (d : DocSpec σ) (h : DocOK F ap d) :
    ∀ g ∈ d.groups, NameOK g.1 ∧ ∀ n ∈ F.gnames d.tables g, NameOK n := by
  intro g hg
  refine ⟨(h.groups g hg).1, ?_⟩
  intro n hn
  obtain ⟨i, hi, rfl⟩ := List.mem_map.mp hn
  have hl := (h.groups g hg).2.2 i hi
  have := h.tables d.tables[i] (List.getElem_mem hl)
  rw [F.tnameAt_eq (List.getElem?_eq_getElem hl)]; exact this.1

def DocSpec.forms (F : ColForm σ) (ap : Bool) (d : DocSpec σ) (h : DocOK F ap d) : List (EForm ap) :=
  d.project.toList.pmap (fun p hp => projectE ap p.1 p.2 hp) h.project
  ++ d.enums.pmap (fun e he => enumEN ap e he) h.enums
  ++ d.tables.pmap (fun t ht => F.tableE ap t ht) h.tables
  ++ (d.refs.map (F.rtext d.tables)).pmap (fun r hr => refE ap r hr) (rtext_ok F ap d h)
  ++ d.groups.pmap (fun g hg => groupE ap g.1 (F.gnames d.tables g) hg.1 hg.2) (gnames_ok F ap d h)
  ++ d.sticky.pmap (fun s hs => stickyE ap s hs) h.sticky

def DocSpec.elems (F : ColForm σ) (d : DocSpec σ) : List Bp.Elem :=
  d.project.toList.map (fun p => Bp.Elem.project (projectBpOf p.1 p.2)) ++ d.enums.map mkEnumElemN ++ d.tables.map F.mkElem
    ++ (d.refs.map (F.rtext d.tables)).map mkRefElem
    ++ d.groups.map (fun g => Bp.Elem.group (groupBpOf g.1 (F.gnames d.tables g)))
    ++ d.sticky.map mkStickyElem

/-- in the order the renderer writes the sections -/
def DocSpec.texts (F : ColForm σ) (d : DocSpec σ) : List Str :=
  d.project.toList.map (fun p => projectText p.1 p.2) ++ d.enums.map (fun e => enumTextN e.1 e.2) ++ d.tables.map F.tabText
    ++ (d.refs.map (F.rtext d.tables)).map refText
    ++ d.groups.map (fun g => groupText g.1 (F.gnames d.tables g))
    ++ d.sticky.map (fun s => stickyText s.name s.text)

theorem DocSpec.forms_elems (F : ColForm σ) (ap : Bool) (d : DocSpec σ) (h : DocOK F ap d) :
    (d.forms F ap h).map (·.elem) = d.elems F := by
  simp only [DocSpec.forms, DocSpec.elems, List.map_append]
  rw [map_pmap_const (fun (p : Str × List (Str × Str)) (hp : ProjectOK p.1 p.2) => projectE ap p.1 p.2 hp) (·.elem)
      (fun p => Bp.Elem.project (projectBpOf p.1 p.2)) (fun _ _ => rfl),
    map_pmap_const (fun e he => enumEN ap e he) (·.elem) mkEnumElemN (fun _ _ => rfl),
    map_pmap_const (fun t ht => F.tableE ap t ht) (·.elem) F.mkElem (fun _ _ => rfl),
    map_pmap_const (fun r hr => refE ap r hr) (·.elem) mkRefElem (fun _ _ => rfl),
    map_pmap_const (fun g hg => groupE ap g.1 (F.gnames d.tables g) hg.1 hg.2) (·.elem)
      (fun g => Bp.Elem.group (groupBpOf g.1 (F.gnames d.tables g))) (fun _ _ => rfl),
    map_pmap_const (fun s hs => stickyE ap s hs) (·.elem) mkStickyElem (fun _ _ => rfl)]

theorem DocSpec.forms_texts (F : ColForm σ) (ap : Bool) (d : DocSpec σ) (h : DocOK F ap d) :
    (d.forms F ap h).map (·.text) = d.texts F := by
  simp only [DocSpec.forms, DocSpec.texts, List.map_append]
  rw [map_pmap_const (fun (p : Str × List (Str × Str)) (hp : ProjectOK p.1 p.2) => projectE ap p.1 p.2 hp) (·.text)
      (fun p => projectText p.1 p.2) (fun p hp => projectE_text ap p.1 p.2 hp),
    map_pmap_const (fun e he => enumEN ap e he) (·.text) (fun e => enumTextN e.1 e.2) (fun e he => enumEN_text ap e he),
    map_pmap_const (fun t ht => F.tableE ap t ht) (·.text) F.tabText (fun t ht => F.tableE_text ap t ht),
    map_pmap_const (fun r hr => refE ap r hr) (·.text) refText (fun r hr => refE_text ap r hr),
    map_pmap_const (fun g hg => groupE ap g.1 (F.gnames d.tables g) hg.1 hg.2) (·.text)
      (fun g => groupText g.1 (F.gnames d.tables g)) (fun g hg => groupE_text ap g.1 _ hg.1 hg.2),
    map_pmap_const (fun s hs => stickyE ap s hs) (·.text) (fun s => stickyText s.name s.text)
      (fun s hs => stickyE_text ap s hs)]

theorem DocSpec.forms_ne (F : ColForm σ) (ap : Bool) (d : DocSpec σ) (h : DocOK F ap d) : d.forms F ap h ≠ [] := by
  intro he
  have := congrArg (List.map (·.elem)) he
  rw [d.forms_elems F ap h] at this
  have hne := h.tablesNe
  cases ht : d.tables with
  | nil => exact hne ht
  | cons t r => simp [DocSpec.elems, ht] at this

theorem foldlM_enums : ∀ (todo done : List ESpecN), (∀ e ∈ todo, ESpecNOK e) → (done ++ todo).Pairwise (fun a b => a.1 ≠ b.1) →
    (todo.map fun e => enumBpN e.1 e.2).foldlM enumStep (done.map mkEnum) = .ok ((done ++ todo).map mkEnum) := by
  intro todo done hok hp
  refine Exc.foldlM_extend (R := fun a b => a.1 ≠ b.1) (P := ESpecNOK) ?_ todo done hp hok
  intro done e hd he
  have hb := buildEnum_N e he
  rw [← mkEnum_eq] at hb
  have hno : (done.map mkEnum).any (fun x => x.name == (mkEnum e).name && x.schema == (mkEnum e).schema) = false := by
    rw [List.any_eq_false]
    intro x hx
    obtain ⟨u, hu, rfl⟩ := List.mem_map.mp hx
    simp only [mkEnum, mkEnumN, Bool.and_eq_true, beq_iff_eq, not_and]
    exact fun hname => absurd hname (hd u hu)
  simp [enumStep, hb, addEnum, hno, bind, Except.bind, pure, Except.pure]

theorem splitDot_no_dot (t : Str) (h : '.' ∉ t) : splitDot t = [t] := by
  induction t with
  | nil => rfl
  | cons c r ih =>
    have hc : c ≠ '.' := fun e => h (by simp [e])
    have hr : '.' ∉ r := fun e => h (by simp [e])
    rw [splitDot, ih hr]
    simp [hc]

theorem groupItemName_plain (tn : Str) (h : '.' ∉ tn) : groupItemName tn = (lit "public", tn) := by
  unfold groupItemName
  rw [splitDot_no_dot tn h]

theorem foldlM_groupStep (F : ColForm σ) (ts : List (FTab σ)) (hr : F.Resolvable ts) :
    ∀ (todo done : List Nat), (done ++ todo).Nodup → (∀ i ∈ todo, i < ts.length) →
    (todo.map (F.tnameAt ts)).foldlM (groupStep (ts.map F.mkTable)) done = .ok (done ++ todo) := by
  intro todo done hnd hlt
  have := Exc.foldlM_extend (step := groupStep (ts.map F.mkTable)) (f := F.tnameAt ts) (g := id) (R := fun a b => a ≠ b)
    (P := fun i => i < ts.length) ?_ todo done hnd hlt
  · simpa using this
  intro done i hd hi
  have hget : ts[i]? = some ts[i] := List.getElem?_eq_getElem hi
  have hname : F.tnameAt ts i = ts[i].name := F.tnameAt_eq hget
  have hni : i ∉ done := fun hm => hd i hm rfl
  unfold groupStep
  rw [hname, groupItemName_plain _ (hr.nodot _ (List.getElem_mem hi))]
  simp [F.locateTable_ok ts hr i ts[i] hget, hni, bind, Except.bind, pure, Except.pure]

theorem foldlM_groups (F : ColForm σ) (ts : List (FTab σ)) (hr : F.Resolvable ts) (db0 : Db)
    (hdb : db0.tables = ts.map F.mkTable) :
    ∀ (todo done : List (Str × List Nat)), (done ++ todo).Pairwise (fun a b => a.1 ≠ b.1) →
    (∀ g ∈ todo, g.2.Nodup ∧ ∀ i ∈ g.2, i < ts.length) →
    (todo.map fun g => groupBpOf g.1 (F.gnames ts g)).foldlM (groupAddStep db0) (done.map mkGroup)
      = .ok ((done ++ todo).map mkGroup) := by
  intro todo done hp hok
  refine Exc.foldlM_extend (R := fun a b => a.1 ≠ b.1) (P := fun g => g.2.Nodup ∧ ∀ i ∈ g.2, i < ts.length) ?_ todo done hp hok
  intro done g hd hg
  have hbuild : buildGroup db0 (groupBpOf g.1 (F.gnames ts g)) = .ok (mkGroup g) := by
    unfold buildGroup
    have := foldlM_groupStep F ts hr g.2 [] (by simpa using hg.1) hg.2
    simp only [List.nil_append] at this
    simp only [groupBpOf, ColForm.gnames, hdb, this, bind, Except.bind, pure, Except.pure, mkGroup, Option.map_none]
  have hno : (done.map mkGroup).any (fun x => x.name == (mkGroup g).name) = false := by
    rw [List.any_eq_false]
    intro x hx
    obtain ⟨u, hu, rfl⟩ := List.mem_map.mp hx
    simpa [mkGroup] using hd u hu
  simp [groupAddStep, hbuild, hno, bind, Except.bind, pure, Except.pure]

theorem DocSpec.build (F : ColForm σ) (ap : Bool) (d : DocSpec σ) (h : DocOK F ap d) :
    buildDatabase ap (d.elems F) = .ok (d.db F ap) := by
  obtain ⟨hE, hT, hG, hS⟩ : enumBps (d.elems F) = (d.enums.map fun e => enumBpN e.1 e.2)
      ∧ tableBps (d.elems F) = (d.tables.map fun t => F.tableBpC t.name t.cols t.note t.comment)
      ∧ groupBps (d.elems F) = (d.groups.map fun g => groupBpOf g.1 (F.gnames d.tables g))
      ∧ stickyBps (d.elems F) = (d.sticky.map fun s => ({ name := s.name, text := s.text } : Bp.StickyBp)) := by
    simp [enumBps, tableBps, groupBps, stickyBps, DocSpec.elems, mkEnumElemN, ColForm.mkElem, mkRefElem, mkStickyElem,
      List.filterMap_append, List.filterMap_map, Function.comp_def, filterMap_const_none]
  have hP : projectBp (d.elems F) = d.project.map fun p => projectBpOf p.1 p.2 := by
    cases hpj : d.project <;>
      simp [projectBp, DocSpec.elems, hpj, mkEnumElemN, ColForm.mkElem, mkRefElem, mkStickyElem, List.filterMap_append,
        List.filterMap_map, Function.comp_def, filterMap_const_none]
  have hR : refBlueprints (d.elems F)
      = (d.inl.map (fun r => (r, true)) ++ d.refs.map (fun r => (r, false))).map (F.bpB d.tables) := by
    have h0 : refBlueprints (d.project.toList.map fun p => Bp.Elem.project (projectBpOf p.1 p.2)) = [] := by
      cases d.project <;> simp [refBlueprints]
    have h1 : refBlueprints (d.enums.map mkEnumElemN) = [] := by
      simp [refBlueprints, mkEnumElemN, List.flatMap_map]
    have h2 : refBlueprints (d.tables.map F.mkElem) = d.inl.map (fun r => F.bpB d.tables (r, true)) := by
      have hw : refBlueprints (d.tables.map F.mkElem) = (F.written d.tables).map ibp := by
        unfold ColForm.written
        simp only [refBlueprints, ColForm.mkElem, List.flatMap_map, List.map_flatMap, ColForm.tableBpC]
        apply flatMap_congr_mem
        intro t ht
        apply flatMap_congr_mem
        intro s hs
        -- `ColForm` has no field relating the blueprint's name to the column's: the build of the column tells, hence `noShadow`
        have hn : (F.bp s).name = F.cname s :=
          (buildColumn_name _ _ _ (F.build ap (d.enums.map mkEnum) s ((h.tables t ht).2.1 s hs) (h.noShadow t ht s hs))).symm
        rw [F.bp_refs, List.map_map, List.map_map]
        apply List.map_congr_left
        intro r _
        simp [ibp, hn]
      rw [hw, h.inlWritten, List.map_map]
      rfl
    have h4 : refBlueprints (d.sticky.map mkStickyElem) = [] := by
      simp [refBlueprints, mkStickyElem, List.flatMap_map]
    have h5 : refBlueprints (d.groups.map fun g => Bp.Elem.group (groupBpOf g.1 (F.gnames d.tables g))) = [] := by
      simp [refBlueprints, List.flatMap_map]
    simp only [DocSpec.elems, refBlueprints_append, h0, h1, h2, h4, h5, refBlueprints_refElems]
    simp [List.map_map, Function.comp_def, ColForm.bpB_false]
  have hFe := foldlM_enums d.enums [] h.enums (by simpa using h.enumNames)
  simp only [List.map_nil, List.nil_append] at hFe
  have hFt := F.foldlM_tables ap (d.enums.map mkEnum) d.tables [] (by simpa using h.resolvable.tnames)
    (fun t ht => (h.tables t ht).2.1) h.noShadow (fun t ht => (h.tables t ht).2.2.2.2.2.2)
  simp only [List.map_nil, List.nil_append] at hFt
  have hst : (d.sticky.map fun s => ({ name := s.name, text := s.text } : Bp.StickyBp)).map buildSticky = d.sticky := by
    rw [List.map_map, List.map_congr_left (g := id), List.map_id]
    intro s hs
    show ({ name := s.name, text := norm s.text } : Sticky) = s
    rw [(h.sticky s hs).2.2.2.2]
  have hFg := foldlM_groups F d.tables h.resolvable
    { tables := d.tables.map F.mkTable, enums := d.enums.map mkEnum, allowProps := ap } rfl d.groups []
    (by simpa using h.groupNames) (fun g hg => (h.groups g hg).2)
  simp only [List.map_nil, List.nil_append] at hFg
  have hRf := F.foldlM_refsB d.tables h.resolvable
    { tables := d.tables.map F.mkTable, enums := d.enums.map mkEnum, allowProps := ap, groups := d.groups.map mkGroup,
      sticky := d.sticky, project := d.project.map mkProject } rfl (d.inl.map (fun r => (r, true)) ++ d.refs.map (fun r => (r, false))) []
    (by
      intro x hx
      simp only [List.nil_append, List.mem_append, List.mem_map] at hx
      rcases hx with ⟨r, hr, rfl⟩ | ⟨r, hr, rfl⟩
      · exact h.inlIn r hr
      · exact h.refsIn r hr)
    (by simpa [List.map_map, Function.comp_def] using h.refsNodup)
  simp only [List.map_nil, List.nil_append] at hRf
  have hmk : (d.inl.map (fun r => (r, true)) ++ d.refs.map (fun r => (r, false))).map mkRefB
      = d.inl.map (fun r => mkRefB (r, true)) ++ d.refs.map mkRef := by
    simp only [List.map_append, List.map_map]
    rfl
  rw [hmk] at hRf
  have hBP : buildProject (d.project.map fun p => projectBpOf p.1 p.2) = .ok (d.project.map mkProject) := by
    cases d.project <;> simp [buildProject, buildNote, projectBpOf, mkProject, bind, Except.bind, pure, Except.pure]
  unfold buildDatabase
  simp only [hE, hT, hG, hS, hP, hR, hFe, hFt, hFg, hst, hBP, pure, Except.pure, bind, Except.bind]
  rw [hRf]
  rfl

theorem memberLines_flatten (F : ColForm σ) (ts : List (FTab σ)) (is : List Nat) :
    (is.map fun i => lit "    " ++ ('"' :: F.tnameAt ts i ++ ['"']) ++ ['\n']).flatten = memberLines (is.map (F.tnameAt ts)) := by
  induction is with
  | nil => rfl
  | cons i r ih =>
    rw [List.map_cons, List.flatten_cons, ih]
    simp [memberLines, lit]

theorem renderGroup_ok (F : ColForm σ) (ap : Bool) (d : DocSpec σ) (g : Str × List Nat) (hg : NameOK g.1)
    (hlt : ∀ i ∈ g.2, i < d.tables.length) :
    Dbml.renderGroup (d.db F ap) (mkGroup g) = .ok (groupText g.1 (F.gnames d.tables g)) := by
  have hitems : (mkGroup g).items.mapM (fun i => do
      let t ← getD? (d.db F ap).tables i "group item position"
      pure (lit "    " ++ qualName t.schema t.name ++ ['\n']))
      = .ok (g.2.map fun i => lit "    " ++ ('"' :: F.tnameAt d.tables i ++ ['"']) ++ ['\n']) := by
    simp only [mkGroup]
    apply mapM_ok_map_mem
    intro i hi
    have hl := hlt i hi
    have hget : d.tables[i]? = some d.tables[i] := List.getElem?_eq_getElem hl
    rw [F.getD?_mkTable (db := d.db F ap) rfl hget]
    simp [F.qualName_mkTable, F.tnameAt_eq hget, bind, Except.bind, pure, Except.pure]
  unfold Dbml.renderGroup
  rw [hitems]
  have hq : doublequoteString (mkGroup g).name = .ok ('"' :: g.1 ++ ['"']) := doublequote_nameOK g.1 hg
  rw [hq]
  simp only [Dbml.liftPy, bind, Except.bind, pure, Except.pure, memberLines_flatten]
  simp [mkGroup, groupText, ColForm.gnames, Dbml.optComment, truthy, lit]

theorem DocSpec.render (F : ColForm σ) (ap : Bool) (d : DocSpec σ) (h : DocOK F ap d) :
    Dbml.renderDb (d.db F ap) = .ok (joinWith (lit "\n\n") (d.texts F)) := by
  have henums : (d.db F ap).enums.map Dbml.renderEnum = d.enums.map fun e => enumTextN e.1 e.2 := by
    simp only [DocSpec.db, List.map_map]
    apply List.map_congr_left
    intro e he
    rw [Function.comp_apply, mkEnum_eq, renderEnum_N e (h.enums e he)]
  have htabs := F.renderTables_ok (d.db F ap) d.tables rfl (fun t ht => h.tables t ht) fun i t ht ci s hs =>
    F.inline_rendered d.tables h.resolvable (d.db F ap) rfl d.inl d.refs rfl h.inlIn h.inlKind h.inlWritten i ci t s ht hs
  have hrefs := F.renderRefs_ok (d.db F ap) d.tables rfl d.refs (filter_not_inline d.inl d.refs h.inlKind) h.refsIn
  have hgroups : (d.db F ap).groups.mapM (Dbml.renderGroup (d.db F ap))
      = .ok (d.groups.map fun g => groupText g.1 (F.gnames d.tables g)) := by
    simp only [DocSpec.db, List.mapM_map]
    exact mapM_ok_map_mem _ _ d.groups (fun g hg => renderGroup_ok F ap d g (h.groups g hg).1 (h.groups g hg).2.2)
  have hsticky : (d.db F ap).sticky.map Dbml.renderSticky = d.sticky.map fun s => stickyText s.name s.text := by
    simp only [DocSpec.db]
    apply List.map_congr_left
    intro s hs
    exact renderSticky_plain s (h.sticky s hs).2.2.1
  have hproj : Dbml.renderProjectList (d.db F ap) = .ok (d.project.toList.map fun p => projectText p.1 p.2) := by
    unfold Dbml.renderProjectList
    cases hpj : d.project with
    | none => simp [DocSpec.db, hpj]
    | some p =>
      have hok := h.project p (by simp [hpj])
      simp [DocSpec.db, hpj, mkProject, renderProject_ok p.1 p.2 hok, Except.map]
  unfold Dbml.renderDb
  simp only [bind, Except.bind, hproj, htabs, hrefs, henums, hsticky, hgroups]
  simp [DocSpec.texts, pure, Except.pure]

/-- **the round trip of whole documents**, generic in the form of the columns: rendered to DBML and parsed back, every
    element comes back once, in its section, in order, the references linked to the columns they were written from, and a
    reference written inline (`d.inl`; never many-to-many, those are not shown inline) as an inline reference of the same
    column. -/
theorem document_roundtrip (F : ColForm σ) (ap : Bool) (d : DocSpec σ) (h : DocOK F ap d) :
    ∃ text, Dbml.renderDb (d.db F ap) = .ok text ∧ Build.parse ap text = .ok (d.db F ap) := by
  have hp := parseDoc_elems (d.forms F ap h) (d.forms_ne F ap h)
  rw [d.forms_elems F ap h] at hp
  refine roundtrip_of ap _ _ _ (d.render F ap h) (by rw [← d.forms_texts F ap h, docTextE_join]; exact hp) ?_ (d.build F ap h)
  rw [← d.forms_texts F ap h, docTextE_join]
  cases hf : d.forms F ap h with
  | nil => rfl
  | cons e r => exact e.text_removeBom _

theorem resolveType_plain (enums : List Enum) (ty : Str) (hty : TypeOK ty) (hno : ∀ e ∈ enums, e.name ≠ ty) :
    resolveTypePure enums ty = ColType.plain ty := by
  have hnd : '.' ∉ ty := by
    intro hm
    have := List.all_eq_true.mp hty.2 '.' hm
    simp [isNameChar, isAlnum, isAlpha, isDigit] at this
  unfold resolveTypePure typeKey
  rw [splitDot_no_dot ty hnd]
  have : enums.findIdx? (fun e => e.schema == lit "public" && e.name == ty) = none := by
    rw [List.findIdx?_eq_none_iff]
    intro e he
    simp [hno e he]
  simp only [this]

abbrev FlagDoc := DocSpec FCol

/-- **C01 / C02 / C05 / C14 / C15: whole documents, end to end.**  A database holding
    * enums in schema public (quoted names and items, each item possibly with a one-line note),
    * a positive number of tables, each possibly under a one-line comment and with a one-line `Note { '…' }` block, its
      columns carrying any subset of `pk`, `increment`, `unique`, `not null`, possibly an integer, one-line string or
      backtick-expression default, a one-line note and (properties switched on) arbitrary properties; no type text names a
      declared enum,
    * pairwise different single-column references between these columns, each written inline in its first column (`d.inl`,
      none many-to-many; `hwritten`: the columns' `irefs` are exactly the names of these) or standalone (`d.refs`),
    * table groups over these tables, sticky notes (bare name, one-line text), possibly a project (keys: bare identifiers
      not beginning with `note`)
    is rendered to DBML and parsed back to exactly the same database: every element once, in its section, in order, the
    references linked to the very columns they were written from, the inline ones still inline on the same column.  The
    hypotheses on names are exactly the recorded findings (no dot in a table name, a column name is one comma-free piece
    that survives `strip('() ')`, no two columns of a table with one name). -/
theorem flags_document_roundtrip_partial (ap : Bool) (d : FlagDoc)
    (henums : ∀ e ∈ d.enums, NameOK e.1 ∧ (∀ it ∈ e.2, NameOK it.1 ∧ Plain it.2 ∧ hasTriple it.2 = false ∧ norm it.2 = it.2) ∧ e.2 ≠ [])
    (henames : d.enums.Pairwise (fun a b => a.1 ≠ b.1))
    (htabs : ∀ t ∈ d.tables, FlagTabOK ap t) (hne : d.tables ≠ [])
    (htn : d.tables.Pairwise (fun a b => a.name ≠ b.name)) (hnodot : ∀ t ∈ d.tables, '.' ∉ t.name)
    (hcn : ∀ t ∈ d.tables, t.cols.Pairwise (fun a b => a.name ≠ b.name))
    (hcp : ∀ t ∈ d.tables, ∀ c ∈ t.cols, splitComma c.name = [c.name] ∧ stripParenSpace c.name = c.name)
    (hshadow : ∀ t ∈ d.tables, ∀ c ∈ t.cols, ∀ e ∈ d.enums, e.1 ≠ c.type)
    (hin : ∀ r ∈ d.inl ++ d.refs, ∃ ta tb, d.tables[r.t1]? = some ta ∧ d.tables[r.t2]? = some tb ∧ r.c1 < ta.cols.length
      ∧ r.c2 < tb.cols.length)
    (hkind : ∀ r ∈ d.inl, r.kind ≠ .manyToMany)
    (hwritten : (d.tables.flatMap fun t => t.cols.flatMap fun s => s.irefs.map fun r => (t.name, s.name, r))
      = d.inl.map (flagForm.iwritten d.tables))
    (hnd : (d.inl ++ d.refs).Nodup)
    (hgroups : ∀ g ∈ d.groups, NameOK g.1 ∧ g.2.Nodup ∧ ∀ i ∈ g.2, i < d.tables.length)
    (hgnames : d.groups.Pairwise (fun a b => a.1 ≠ b.1))
    (hsticky : ∀ s ∈ d.sticky, s.name ≠ [] ∧ s.name.all isNameChar = true ∧ Plain s.text ∧ hasTriple s.text = false
      ∧ norm s.text = s.text)
    (hproject : ∀ p ∈ d.project.toList, ProjectOK p.1 p.2) :
    ∃ text, Dbml.renderDb (d.db flagForm ap) = .ok text ∧ Build.parse ap text = .ok (d.db flagForm ap) :=
  document_roundtrip flagForm ap d
    { enums := henums, enumNames := henames, tables := htabs, tablesNe := hne,
      colNames := fun t ht s hs => ((htabs t ht).2.1 s hs).name,
      resolvable := ⟨htn, hnodot, hcn, hcp⟩,
      noShadow := fun t ht s hs => resolveType_plain _ _ ((htabs t ht).2.1 s hs).type
        (List.forall_mem_map.mpr (hshadow t ht s hs)),
      refsIn := fun r hr => hin r (by simp [hr]), inlIn := fun r hr => hin r (by simp [hr]), inlKind := hkind,
      inlWritten := hwritten, refsNodup := hnd, groups := hgroups, groupNames := hgnames, sticky := hsticky, project := hproject }

/-- the rendered text of a small document of every covered kind -/
example : joinWith (lit "\n\n") (DocSpec.texts flagForm
      { enums := [(lit "status", [(lit "new", []), (lit "done", lit "it's over")])],
        tables := [{ name := lit "a", cols := [{ name := lit "id", type := lit "int", pk := true }], note := lit "the a's" },
                   { name := lit "b", cols := [{ name := lit "a id", type := lit "int", dflt := lit "1" }], comment := some (lit "child") }],
        refs := [{ kind := .manyToOne, t1 := 1, c1 := 0, t2 := 0, c2 := 0 }],
        groups := [(lit "g1", [1, 0])],
        sticky := [{ name := lit "todo", text := lit "check" }],
        project := some (lit "shop", [(lit "database_type", lit "PostgreSQL"), (lit "owner", lit "it's me")]) })
    = lit "Project \"shop\" {\n    database_type: 'PostgreSQL'\n    owner: 'it\\'s me'\n}\n\nEnum \"status\" {\n    \"new\"\n    \"done\" [note: 'it\\'s over']\n}\n\nTable \"a\" {\n    \"id\" int [pk]\n    Note {\n        'the a\\'s'\n    }\n}\n\n// child\nTable \"b\" {\n    \"a id\" int [default: 1]\n}\n\nRef {\n    \"b\".\"a id\" > \"a\".\"id\"\n}\n\nTableGroup \"g1\" {\n    \"b\"\n    \"a\"\n}\n\nNote todo {\n    'check'\n}" := by
  repeat rw [lit_eq rfl]
  decide +kernel

/-- non-vacuity of the hypotheses on inline references (two inline ones, and a standalone one between the same columns of
    another kind) -/
example :
    let d : FlagDoc :=
      { tables := [{ name := lit "a", cols := [{ name := lit "id", type := lit "int", pk := true }] },
                   { name := lit "b", cols := [{ name := lit "a id", type := lit "int", notNull := true,
                                                  irefs := [{ kind := .manyToOne, tn := lit "a", cn := lit "id" }] },
                                                { name := lit "x", type := lit "int",
                                                  irefs := [{ kind := .oneToOne, tn := lit "a", cn := lit "id" }] }] }],
        inl := [{ kind := .manyToOne, t1 := 1, c1 := 0, t2 := 0, c2 := 0 }, { kind := .oneToOne, t1 := 1, c1 := 1, t2 := 0, c2 := 0 }],
        refs := [{ kind := .oneToMany, t1 := 1, c1 := 0, t2 := 0, c2 := 0 }] }
    (d.tables.flatMap fun t => t.cols.flatMap fun s => s.irefs.map fun r => (t.name, s.name, r)) = d.inl.map (flagForm.iwritten d.tables)
      ∧ (∀ r ∈ d.inl, r.kind ≠ .manyToMany) ∧ (d.inl ++ d.refs).Nodup
      ∧ joinWith (lit "\n\n") (d.texts flagForm)
        = lit "Table \"a\" {\n    \"id\" int [pk]\n}\n\nTable \"b\" {\n    \"a id\" int [ref: > \"a\".\"id\", not null]\n    \"x\" int [ref: - \"a\".\"id\"]\n}\n\nRef {\n    \"b\".\"a id\" < \"a\".\"id\"\n}" := by
  repeat rw [lit_eq rfl]
  decide +kernel

example : TNoteOK (lit "the a's") := ⟨(by intro c hc; revert c; decide), (by decide), (by decide)⟩

end C02
end PyDBML
