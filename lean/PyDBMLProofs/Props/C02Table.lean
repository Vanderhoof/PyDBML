/-
C02/C01 — one column line `    "name" type …` (`run_tableColumn`), the end of a table body, `textwrap.indent` on the lines of a
body.
The text definitions of the chain are named by suffix: `P` followed by a given text `post`, `N` with the table's note block,
`K` keyword and name in a given spelling, `R` followed by references, `E` a list of element forms, `G` with gaps
(`GT`: and line breaks at the end); a theorem `…_okP` is about the `P` text.
-/
import PyDBMLProofs.Props.C02Run
namespace PyDBML
namespace C02
open Lex Grammar Build

def TypeOK (ty : Str) : Prop := ty ≠ [] ∧ ty.all isNameChar = true

def colLine (cn ty : Str) : Str := ' ' :: ' ' :: ' ' :: ' ' :: '"' :: (cn ++ '"' :: ' ' :: (ty ++ ['\n']))

def plainCol (cn ty : Str) : Bp.ColBp := { name := cn, type := ty }

/-- `x` goes on with neither the word nor `[]`, `.name`, `(…)` -/
theorem run_columnType (k : Nat) (ty : Str) (x : Char) (r : Str) (hty : TypeOK ty)
    (hx : isNameChar x = false ∧ x ≠ '[' ∧ x ≠ '.' ∧ x ≠ '(') :
    Run columnType ty (At (List.replicate k ' ' ++ (ty ++ x :: r))) (At (x :: r)) := by
  obtain ⟨t0, ts, rfl⟩ := List.exists_cons_of_ne_nil hty.1
  have hw : isWs t0 = false := (nameChar_facts t0 (List.all_eq_true.mp hty.2 t0 (by simp))).1
  have hnm : Run nameRaw (t0 :: ts) (At (t0 :: (ts ++ x :: r))) (At (x :: r)) :=
    run_nameRaw hw (run_name 0 t0 ts _ hty.2 (by intro y hy; cases hy; exact hx.1))
  unfold columnType
  refine .skipWs (A' := At (t0 :: (ts ++ x :: r))) ?_ (at_skipWs k hw)
  exact .alt_right (.bind_after hnm (.bind (fails_litRaw (by simp [startsWith, Ne.symm hx.2.1]))))
    (.alt_right (.bind_after hnm (.bind (fails_litRaw (by simp [startsWith, Ne.symm hx.2.2.1]))))
      (.bind hnm (.bind (.opt_none (fails_typeArgs hx.2.2.2)) (.pure_eq (by simp)))))

theorem fails_columnSettings (props : Bool) {e : Bool} (k : Nat) (x : Char) (r : Str) (hw : isWs x = false) (hx : x ≠ '[') :
    Fails (if props then columnSettingsWithProperties else columnSettings) (AtE (List.replicate k ' ' ++ x :: r) e) := by
  cases props
  · exact .bind (fails_sym toList_lbrack k x r hw hx)
  · exact .bind (fails_sym toList_lbrack k x r hw hx)

/-- what `parse_column` makes of a column whose only extras are its settings -/
def colOfSettings (nm ty : Str) (S : ColSettings) : Bp.ColBp :=
  { name := nm, type := ty, unique := false || S.unique, notNull := S.notNull, pk := false || S.pk,
    autoinc := S.autoinc, default := S.default, note := S.note, refs := S.refs,
    comment := (match S.comment with | some x => some x | none => joinBefore []), props := S.props }

/-- `x :: r` goes on, after `k` blanks, with `y`, where no constraint word and no comment starts; `S`: what the settings
    rule reads, `none` without a bracket - `parse_column` then starts from the empty settings dict -/
theorem run_tableColumn (props : Bool) (cn ty : Str) (x : Char) (r : Str) (k : Nat) (y : Char) (r2 a : Str)
    (S : Option ColSettings) (hcn : NameOK cn) (hty : TypeOK ty) (hxr : x :: r = List.replicate k ' ' ++ y :: r2)
    (hx : isNameChar x = false ∧ x ≠ '[' ∧ x ≠ '.' ∧ x ≠ '(')
    (hy : isWs y = false ∧ y ≠ '/' ∧ (pyUpper1 'u' == pyUpper1 y) = false ∧ (pyUpper1 'p' == pyUpper1 y) = false)
    (hset : Run (opt (if props then columnSettingsWithProperties else columnSettings)) S (At (x :: r)) (At ('\n' :: a))) :
    Run (tableColumn props) (colOfSettings cn ty (S.getD {}))
      (At (List.replicate 4 ' ' ++ '"' :: (cn ++ '"' :: ' ' :: (ty ++ x :: r)))) (At a) := by
  have hct : Run columnType ty (At (List.replicate 1 ' ' ++ (ty ++ (List.replicate k ' ' ++ y :: r2))))
      (At (List.replicate k ' ' ++ y :: r2)) := hxr ▸ run_columnType 1 ty x r hty hx
  rw [hxr] at hset ⊢
  refine .bind (stay_cBefore (endOK_at 4 '"' _ (by decide))) ?_
  refine .bind (run_nameQ 4 cn _ hcn) ?_
  refine .bind hct ?_
  refine .bind (.manyF_nil (.alt (.bind (fails_clit_head toList_unique k y _ hy.1 hy.2.2.1))
    (.bind (fails_clit_head toList_pk k y _ hy.1 hy.2.2.2)))) ?_
  refine .bind (.opt_none (fails_comment k y _ hy.1 hy.2.1)) ?_
  refine .bind hset ?_
  refine .bind (run_lineEnd_nl 0 _) (.pure_eq ?_)
  cases S <;> rfl

theorem tableColumn_ok (props : Bool) (c : Cur) (cn ty rest : Str) (hc : c.rest = colLine cn ty ++ rest)
    (hp : c.pastEnd = false) (hcn : NameOK cn) (hty : TypeOK ty) :
    ∃ c', tableColumn props c = .ok (plainCol cn ty) c' ∧ c'.rest = rest ∧ c'.pastEnd = false :=
  (run_tableColumn props cn ty '\n' rest 0 '\n' rest rest none hcn hty rfl (by decide) (by decide)
    (.opt_none (fails_columnSettings props 0 '\n' _ (by decide) (by decide)))).at c (by rw [hc]; simp [colLine]) hp

theorem tableElement_fail_brace (props : Bool) (c : Cur) (tail : Str) (hc : c.rest = '}' :: tail) :
    tableElement props c = .fail := by
  have hnm : Fails name (AtE ('}' :: tail) c.pastEnd) := fails_name 0 '}' tail (by decide) (by decide) (by decide)
  refine Fails.bind_after (stay_skipNl (endOK_brace tail)) (.bind (.alt (.bind ?_) (.alt (.bind ?_) (.alt (.bind ?_) ?_)))) c
    ⟨hc, rfl⟩
  · exact .bind_after (stay_cBefore (endOK_brace tail)) (.bind hnm)
  · exact .alt (.bind (fails_clit_head toList_noteC 0 '}' tail (by decide) (by decide)))
      (.bind (fails_ckw_head toList_note 0 '}' tail (by decide) (by decide)))
  · exact .bind (fails_clit_head toList_indexes 0 '}' tail (by decide) (by decide))
  · cases props
    · exact .pfail
    · exact .bind (.bind hnm)

theorem wordStart_cases (c : Cur) : wordStart c = .fail ∨ wordStart c = .ok () (skipWs c) := by
  unfold wordStart
  dsimp only
  repeat' split
  all_goals simp

theorem fails_alias {e : Bool} (k : Nat) (x : Char) (r : Str) (hw : isWs x = false)
    (hx : (pyUpper1 'a' == pyUpper1 x) = false) : Fails aliasRule (AtE (List.replicate k ' ' ++ x :: r) e) := fun c hc => by
  have hn : (skipWs c).rest = x :: r := skipWs_rest_spaces c k x r hc.1 hw
  unfold aliasRule
  have hk := clit_fails toList_as (skipWs c) (.inr (by rw [skipWs_idem, hn]; simp [startsWithCaseless, hx]))
  rcases wordStart_cases c with h | h <;> simp only [bind, pbind, h, hk]

/-- its leading `_` passes the line break after the opening brace and stays at `a`: the element does on
    `'\n' :: a` what it does on `a` -/
theorem run_tableElement_nl {props : Bool} {v : TblElem} {a : Str} {B : Cur → Prop} (ha : EndOK a)
    (h : Run (tableElement props) v (At a) B) : Run (tableElement props) v (At ('\n' :: a)) B := fun c hc => by
  obtain ⟨c1, h1, hc1⟩ := run_skipNl_nl 0 ha c hc
  have e : tableElement props c = tableElement props c1 := by
    unfold tableElement
    simp only [bind, pbind, h1, skipNl_stays c1 (.of_endOK ha c1 hc1)]
  rw [e]
  exact h c1 hc1

def LineOK (l : Str) : Prop := ∀ c ∈ l, isLineBreak c = false

theorem splitLinesKeepAux_line (cur l rest : Str) (hl : LineOK l) :
    splitLinesKeepAux cur (l ++ '\n' :: rest) = (cur.reverse ++ l ++ ['\n']) :: splitLinesKeepAux [] rest := by
  rw [splitLinesKeepAux_append cur l _ hl, splitLinesKeepAux.eq_def]
  simp [isLineBreak]

theorem indent4_linesG (ls : List Str) (hne : ls ≠ []) (hok : ∀ l ∈ ls, LineOK l)
    (hst : ∀ l ∈ ls, l.all isSpaceChar = false) :
    Dbml.indent4 (joinNL ls) ++ ['\n'] = ls.flatMap fun l => [' ', ' ', ' ', ' '] ++ l ++ ['\n'] := by
  induction ls with
  | nil => exact absurd rfl hne
  | cons l rest ih =>
    have hx := hst l (by simp)
    cases rest with
    | nil =>
      simp only [joinNL, List.flatMap_cons, List.flatMap_nil, List.append_nil]
      rw [Dbml.indent4, textwrapIndent_line _ l (hok l (by simp)) hx]
    | cons l2 rest2 =>
      have ih' := ih (by simp) (fun m hm => hok m (by simp [hm])) (fun m hm => hst m (by simp [hm]))
      simp only [joinNL, List.flatMap_cons] at ih' ⊢
      rw [← ih']
      unfold Dbml.indent4 textwrapIndent splitLinesKeep
      rw [splitLinesKeepAux_line [] l _ (hok l (by simp))]
      have hx' : (l ++ ['\n']).all isSpaceChar = false := by
        rw [List.all_append, hx]; rfl
      simp only [List.reverse_nil, List.nil_append, List.flatMap_cons, hx', Bool.false_eq_true, ↓reduceIte]
      simp

theorem indent4_lines (ls : List Str) (hne : ls ≠ []) (hok : ∀ l ∈ ls, LineOK l)
    (hst : ∀ l ∈ ls, ∃ x r, l = x :: r ∧ isSpaceChar x = false) :
    Dbml.indent4 (joinNL ls) ++ ['\n'] = ls.flatMap fun l => [' ', ' ', ' ', ' '] ++ l ++ ['\n'] :=
  indent4_linesG ls hne hok fun l hl => by obtain ⟨x, r, rfl, hx⟩ := hst l hl; simp [hx]

theorem fullName_inj (a b : Str) (h : fullName (lit "public") a = fullName (lit "public") b) : a = b := by
  simpa [fullName] using h

theorem fullName_public_ne (a b : Str) (hb : '.' ∉ b) : fullName (lit "public") a ≠ b := by
  intro h
  apply hb
  rw [← h]
  simp [fullName, lit]

end C02
end PyDBML
