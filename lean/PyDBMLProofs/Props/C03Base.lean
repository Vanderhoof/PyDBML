/-
What the proofs about the DDL readers of `PyDBMLModel/SqlRead.lean` share.  What a reader returns (`ColDesc`, `TabDesc`, …)
is also what a statement can be WRITTEN from; each reader theorem has two halves that do not know of each other: the
reader inverts the writer (no model in sight), the renderer writes the description the model gives (no reader in
sight).  A part written only when something is set is read back when what follows cannot be taken for it.
-/
import PyDBMLModel
import PyDBMLProofs.Props.C14
import PyDBMLProofs.Join
import PyDBMLProofs.Except
namespace PyDBML
namespace C03

theorem span_at {c : Char} {a b : Str} (h : c ∉ a) (hb : ∀ x ∈ b.head?, x = c) :
    (a ++ b).dropWhile (· != c) = b ∧ (a ++ b).takeWhile (· != c) = a := by
  induction a with
  | nil => cases b with
    | nil => simp
    | cons x b => simp [hb x rfl]
  | cons x r ih =>
    have hx : x ≠ c := fun e => h (by simp [e])
    simpa [List.dropWhile_cons, List.takeWhile_cons, hx] using ih (fun hm => h (by simp [hm]))

theorem span_until {c : Char} {a : Str} (h : c ∉ a) (b : Str) :
    (a ++ c :: b).dropWhile (· != c) = c :: b ∧ (a ++ c :: b).takeWhile (· != c) = a :=
  span_at h (by simp)

theorem stripKw_append (kw r : Str) : stripKw kw (kw ++ r) = (true, r) := by
  have : kw.isPrefixOf (kw ++ r) = true := List.isPrefixOf_iff_prefix.mpr (List.prefix_append kw r)
  simp [stripKw, this]

theorem stripSuffix_append (a suf : Str) : stripSuffix? suf (a ++ suf) = some a := by
  have h : suf.isSuffixOf (a ++ suf) = true := List.isSuffixOf_iff_suffix.mpr (List.suffix_append a suf)
  simp [stripSuffix?, h]

def optKw (b : Bool) (kw : Str) : Str := if b then kw else []

/-- the second character of a text: in a column line the letter after the blank, which tells the keywords apart -/
def tag : Str → Option Char
  | _ :: c :: _ => some c
  | _ => none

theorem stripKw_opt (kw r : Str) (b : Bool) (h : stripKw kw r = (false, r)) :
    stripKw kw ((if b then kw else []) ++ r) = (b, r) := by
  cases b
  · exact h
  · exact stripKw_append kw r

theorem stripKw_optKw (a c : Char) (k : Str) (b : Bool) (r : Str) (h : tag r ≠ some c) :
    stripKw (a :: c :: k) (optKw b (a :: c :: k) ++ r) = (b, r) := by
  refine stripKw_opt _ r b ?_
  match r, h with
  | [], _ => rfl
  | [_], _ => simp [stripKw, List.isPrefixOf]
  | x :: y :: r, h =>
    have : y ≠ c := fun e => h (by rw [e]; rfl)
    simp [stripKw, List.isPrefixOf, Ne.symm this]

theorem tag_optKw_ne {a x c : Char} {k r : Str} (b : Bool) (hx : x ≠ c) (hr : tag r ≠ some c) :
    tag (optKw b (a :: x :: k) ++ r) ≠ some c := by
  cases b
  · exact hr
  · simpa [optKw, tag] using hx

theorem head_optKw {a c : Char} {k r : Str} (b : Bool) (ha : a = c) (hr : ∀ x ∈ r.head?, x = c) :
    ∀ x ∈ (optKw b (a :: k) ++ r).head?, x = c := by
  cases b
  · exact hr
  · simpa [optKw] using ha

abbrev NoBreak (l : Str) : Prop := ∀ ch ∈ l, isLineBreak ch = false

theorem noBreak_nl {l : Str} (h : NoBreak l) : '\n' ∉ l := fun hm => by
  have := h _ hm
  simp [isLineBreak] at this

theorem line_of_noBreak {l : Str} (h1 : l ≠ []) (h2 : NoBreak l) : l ≠ [] ∧ '\n' ∉ l := ⟨h1, noBreak_nl h2⟩

theorem noBreak_optKw (b : Bool) {kw : Str} (h : NoBreak kw) : NoBreak (optKw b kw) := by
  cases b
  · exact fun _ h => nomatch h
  · exact h

theorem qualName_noBreak {sch n : Str} (hs : NoBreak sch) (hn : NoBreak n) : NoBreak (qualName sch n) := by
  unfold qualName
  split
  · exact List.forall_mem_append.mpr ⟨List.forall_mem_cons.mpr ⟨by decide, hn⟩, by decide⟩
  · rw [lit_eq rfl]
    simp only [NoBreak, List.forall_mem_cons, List.forall_mem_append]
    exact ⟨⟨⟨⟨by decide, hs⟩, by decide⟩, hn⟩, by decide⟩

/-- the lines of one statement of a script -/
def Block (B : List Str) : Prop := B ≠ [] ∧ ∀ l ∈ B, l ≠ [] ∧ '\n' ∉ l

/-- the statements joined by an empty line, as `render_db` writes a script -/
def scriptText (Bs : List (List Str)) : Str := joinWith (lit "\n\n") (Bs.map joinNL)

theorem close_line : lit ");" ≠ [] ∧ '\n' ∉ lit ");" := by
  rw [lit_eq rfl]; decide

theorem splitBlocks_plain : ∀ (A : List Str), (∀ l ∈ A, l ≠ []) → splitBlocks A = [A]
  | [], _ => rfl
  | l :: r, h => by
    rw [splitBlocks, splitBlocks_plain r (fun x hx => h x (by simp [hx]))]
    simp [h l (by simp)]

theorem splitBlocks_append : ∀ (A B : List Str), (∀ l ∈ A, l ≠ []) → splitBlocks (A ++ [] :: B) = A :: splitBlocks B
  | [], B, _ => by
    rw [List.nil_append, splitBlocks]
    cases hb : splitBlocks B with
    | nil =>
      exfalso
      cases B with
      | nil => simp [splitBlocks] at hb
      | cons x xs =>
        rw [splitBlocks] at hb
        split at hb <;> (try split at hb) <;> simp at hb
    | cons b bs => simp
  | l :: r, B, h => by
    rw [List.cons_append, splitBlocks, splitBlocks_append r B (fun x hx => h x (by simp [hx]))]
    simp [h l (by simp)]

theorem splitBlocks_scriptText : ∀ (Bs : List (List Str)), Bs ≠ [] → (∀ B ∈ Bs, Block B) →
    splitBlocks (splitNL (scriptText Bs)) = Bs
  | [], h, _ => absurd rfl h
  | [B], _, h => by
    have hB := h B (by simp)
    rw [show scriptText [B] = joinNL B from rfl, C14.splitNL_joinNL B hB.1 (fun l hl => (hB.2 l hl).2),
      splitBlocks_plain B (fun l hl => (hB.2 l hl).1)]
  | B :: B2 :: Bs, _, h => by
    have hB := h B (by simp)
    have e : scriptText (B :: B2 :: Bs) = joinNL B ++ '\n' :: '\n' :: scriptText (B2 :: Bs) := by
      simp [scriptText, joinWith_cons, lit_nn]
    rw [e, C14.splitNL_append_nl, C14.splitNL_joinNL B hB.1 (fun l hl => (hB.2 l hl).2), show splitNL ('\n' :: scriptText (B2 :: Bs))
        = [] :: splitNL (scriptText (B2 :: Bs)) from by simp [splitNL],
      splitBlocks_append B _ (fun l hl => (hB.2 l hl).1),
      splitBlocks_scriptText (B2 :: Bs) (by simp) (fun X hX => h X (by simp [hX]))]

end C03

namespace C04
open C03

def quoteN (n : Str) : Str := '"' :: n ++ ['"']

theorem readQuoted_ok (n rest : Str) (hq : '"' ∉ n) : readQuoted ('"' :: (n ++ '"' :: rest)) = some (n, rest) := by
  simp only [readQuoted, span_until hq]

theorem names_cons (n n2 : Str) (r : List Str) (X : Str) : joinWith (lit ", ") ((n :: n2 :: r).map quoteN) ++ X
    = '"' :: (n ++ '"' :: ',' :: ' ' :: (joinWith (lit ", ") ((n2 :: r).map quoteN) ++ X)) := by
  rw [lit_eq rfl]
  simp [joinWith, quoteN]

/-- `readNamesR` hands on what follows the closing parenthesis, `readNames` (key clause of a table) wants the text to
    end there -/
theorem readNames_both (rest : Str) : ∀ (ns : List Str) (fuel : Nat), ns ≠ [] → ns.length ≤ fuel → (∀ n ∈ ns, '"' ∉ n) →
    readNamesR fuel (joinWith (lit ", ") (ns.map quoteN) ++ ')' :: rest) = some (ns, rest)
    ∧ readNames fuel (joinWith (lit ", ") (ns.map quoteN) ++ [')']) = some ns
  | [], _, h, _, _ => absurd rfl h
  | [n], f + 1, _, _, hq => by
    have e : ∀ X : Str, joinWith (lit ", ") ([n].map quoteN) ++ X = '"' :: (n ++ '"' :: X) := fun X => by
      simp [joinWith, quoteN]
    rw [e, e]
    exact ⟨by simp only [readNamesR, readQuoted_ok n _ (hq n (by simp))],
      by simp only [readNames, span_until (hq n (by simp))]⟩
  | n :: n2 :: r, f + 1, _, hf, hq => by
    obtain ⟨ih1, ih2⟩ := readNames_both rest (n2 :: r) f (by simp) (by simp at hf ⊢; omega) (fun m hm => hq m (by simp [hm]))
    rw [names_cons, names_cons]
    constructor
    · simp only [readNamesR, readQuoted_ok n _ (hq n (by simp))]
      rw [ih1]; rfl
    · simp only [readNames, span_until (hq n (by simp))]
      rw [ih2]; rfl

theorem readNamesR_ok (rest : Str) : ∀ (ns : List Str) (fuel : Nat), ns ≠ [] → ns.length ≤ fuel → (∀ n ∈ ns, '"' ∉ n) →
    readNamesR fuel (joinWith (lit ", ") (ns.map quoteN) ++ ')' :: rest) = some (ns, rest) :=
  fun ns fuel h1 h2 h3 => (readNames_both rest ns fuel h1 h2 h3).1

theorem joinNames_length : ∀ (l : List Str), l.length ≤ (joinWith (lit ", ") (l.map quoteN)).length
  | [] => by simp
  | [a] => by simp [joinWith, quoteN]
  | a :: b :: r => by
    have := joinNames_length (b :: r)
    rw [← List.append_nil (joinWith _ _), names_cons]
    simp only [List.length_append, List.length_cons, List.length_nil] at this ⊢
    omega

/-- the form in which the readers call it: the fuel is the length of the text -/
theorem readNamesR_text (ns : List Str) (rest : Str) (hne : ns ≠ []) (hq : ∀ n ∈ ns, '"' ∉ n) :
    readNamesR (joinWith (lit ", ") (ns.map quoteN) ++ ')' :: rest).length (joinWith (lit ", ") (ns.map quoteN) ++ ')' :: rest)
      = some (ns, rest) :=
  readNamesR_ok rest ns _ hne (by have := joinNames_length ns; simp only [List.length_append]; omega) hq

end C04
end PyDBML
