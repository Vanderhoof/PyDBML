/-
C02/C01/C05 — documents of tables (columns in any form that is read back, `ColForm`) followed by standalone references
between their columns: the build resolves the names back to the positions they were written from, and two written
references are equal to `Reference.__eq__` only when they are the same.
-/
import PyDBMLProofs.Props.C02FormTables
import PyDBMLProofs.Props.C02Refs
import PyDBMLProofs.Except
import PyDBMLProofs.Join
namespace PyDBML
namespace C02
open Lex Grammar Build

variable {σ : Type}

def ColForm.cname (F : ColForm σ) (s : σ) : Str := (F.col s).name

def ColForm.tnameAt (_F : ColForm σ) (ts : List (FTab σ)) (i : Nat) : Str := ((ts[i]?).map (·.name)).getD []
def ColForm.cnameAt (F : ColForm σ) (ts : List (FTab σ)) (i j : Nat) : Str :=
  (((ts[i]?).bind fun t => t.cols[j]?).map F.cname).getD []

theorem ColForm.tnameAt_eq (F : ColForm σ) {ts : List (FTab σ)} {i : Nat} {t : FTab σ} (h : ts[i]? = some t) :
    F.tnameAt ts i = t.name := by simp [ColForm.tnameAt, h]

theorem ColForm.cnameAt_eq (F : ColForm σ) {ts : List (FTab σ)} {i j : Nat} {t : FTab σ} (h : ts[i]? = some t)
    (hj : j < t.cols.length) : F.cnameAt ts i j = F.cname t.cols[j] := by
  simp [ColForm.cnameAt, h, List.getElem?_eq_getElem hj]

def ColForm.rtext (F : ColForm σ) (ts : List (FTab σ)) (r : RSpec) : RText :=
  { kind := r.kind, t1 := F.tnameAt ts r.t1, c1 := F.cnameAt ts r.t1 r.c1, t2 := F.tnameAt ts r.t2, c2 := F.cnameAt ts r.t2 r.c2 }

/-- what makes names resolvable: exactly the recorded findings are excluded -/
structure ColForm.Resolvable (F : ColForm σ) (ts : List (FTab σ)) : Prop where
  tnames : ts.Pairwise (fun a b => a.name ≠ b.name)
  /-- no dot in a table name (KF-C01-dotted-quoted-name / alias shadowing of `schema.name` keys) -/
  nodot : ∀ t ∈ ts, '.' ∉ t.name
  /-- column names of one table are pairwise different (DuplicateColumnName) -/
  cnames : ∀ t ∈ ts, t.cols.Pairwise (fun a b => F.cname a ≠ F.cname b)
  /-- a column name is one piece and survives `strip('() ')` (KF-C01-ref-column-split) -/
  cplain : ∀ t ∈ ts, ∀ c ∈ t.cols, splitComma (F.cname c) = [F.cname c] ∧ stripParenSpace (F.cname c) = F.cname c

def ColForm.RSpecIn (_F : ColForm σ) (ts : List (FTab σ)) (r : RSpec) : Prop :=
  ∃ ta tb, ts[r.t1]? = some ta ∧ ts[r.t2]? = some tb ∧ r.c1 < ta.cols.length ∧ r.c2 < tb.cols.length

theorem ColForm.names_inj (F : ColForm σ) (ts : List (FTab σ)) (hr : F.Resolvable ts) (i j ci cj : Nat) (ta tb : FTab σ)
    (hi : ts[i]? = some ta) (hj : ts[j]? = some tb) (hci : ci < ta.cols.length) (hcj : cj < tb.cols.length)
    (hn : ta.name = tb.name) (hc : F.cname ta.cols[ci] = F.cname tb.cols[cj]) : i = j ∧ ci = cj := by
  obtain ⟨hil, hta⟩ := List.getElem?_eq_some_iff.mp hi
  obtain ⟨hjl, htb⟩ := List.getElem?_eq_some_iff.mp hj
  have htt : i = j := pairwise_key_inj hr.tnames hil hjl (by rw [hta, htb]; exact hn)
  subst htt
  have hab : ta = tb := by rw [hi] at hj; exact Option.some.inj hj
  subst hab
  exact ⟨rfl, pairwise_key_inj (hr.cnames ta (List.mem_of_getElem? hi)) hci hcj hc⟩

theorem ColForm.findKey_ok (F : ColForm σ) (ts : List (FTab σ)) (hr : F.Resolvable ts) (i : Nat) (t : FTab σ)
    (hi : ts[i]? = some t) :
    findKey (ts.map F.mkTable) t.name = none ∧ findKey (ts.map F.mkTable) (fullName (lit "public") t.name) = some i := by
  obtain ⟨hlen, hti⟩ := List.getElem?_eq_some_iff.mp hi
  have htm : t ∈ ts := List.mem_of_getElem? hi
  constructor
  · unfold findKey
    rw [List.find?_eq_none]
    intro j hj
    simp only [List.mem_reverse, List.mem_range, List.length_map] at hj
    simp only [List.getElem?_map, List.getElem?_eq_getElem hj, Option.map_some, ColForm.mkTable, ColForm.table, Table.fullName]
    simp only [Bool.or_eq_true, beq_iff_eq, not_or]
    exact ⟨fullName_public_ne _ _ (hr.nodot t htm), by simp⟩
  · unfold findKey
    rw [List.length_map]
    apply find_unique ts.length _ i hlen
    · simp [List.getElem?_map, hi, ColForm.mkTable, ColForm.table, Table.fullName]
    · intro j hj hpj
      simp only [List.getElem?_map, List.getElem?_eq_getElem hj, Option.map_some, ColForm.mkTable, ColForm.table, Table.fullName,
        Bool.or_eq_true, beq_iff_eq] at hpj
      rcases hpj with h | h
      · have hname : ts[j].name = t.name := fullName_inj _ _ h
        exact pairwise_key_inj hr.tnames hj hlen (by rw [hname, hti])
      · cases h

theorem ColForm.locateTable_ok (F : ColForm σ) (ts : List (FTab σ)) (hr : F.Resolvable ts) (i : Nat) (t : FTab σ)
    (hi : ts[i]? = some t) : locateTable (ts.map F.mkTable) (lit "public") t.name = .ok i := by
  obtain ⟨h1, h2⟩ := F.findKey_ok ts hr i t hi
  unfold locateTable
  simp [h1, h2, pure, Except.pure]

theorem ColForm.colsAt_ok (F : ColForm σ) (ts : List (FTab σ)) (hr : F.Resolvable ts) (i j : Nat) (t : FTab σ) (c : σ)
    (hi : ts[i]? = some t) (hj : t.cols[j]? = some c) : colsAt (ts.map F.mkTable) i (F.cname c) = .ok [j] := by
  have htm : t ∈ ts := List.mem_of_getElem? hi
  have hcm : c ∈ t.cols := List.mem_of_getElem? hj
  obtain ⟨hsplit, hstrip⟩ := hr.cplain t htm c hcm
  obtain ⟨hjl, hcj⟩ := List.getElem?_eq_some_iff.mp hj
  unfold colsAt
  simp only [List.getElem?_map, hi, Option.map_some]
  unfold locateCols
  rw [hsplit]
  simp only [List.mapM_cons, List.mapM_nil, hstrip]
  have hfind : (F.mkTable t).columns.findIdx? (fun x => x.name == F.cname c) = some j := by
    simp only [ColForm.mkTable, ColForm.table]
    apply findIdx_unique _ _ j (by simpa using hjl)
    · simp [ColForm.cname, hcj]
    · intro k hk hpk
      have hk' : k < t.cols.length := by simpa using hk
      simp only [List.getElem_map, beq_iff_eq] at hpk
      exact pairwise_key_inj (hr.cnames t htm) hk' hjl (by rw [hcj]; exact hpk)
  rw [hfind]
  rfl

/-- the Bool: written inline, among the settings of its first column -/
def mkRefB (x : RSpec × Bool) : Ref := { mkRef x.1 with inlineFlag := x.2 }

def ColForm.bpB (F : ColForm σ) (ts : List (FTab σ)) (x : RSpec × Bool) : Bp.RefBp :=
  { refBp (F.rtext ts x.1) with inline := x.2 }

/-- `Reference.inline` of a positional reference: written inline and not many-to-many -/
theorem mkRefB_inline (x : RSpec × Bool) : (mkRefB x).inline = (x.2 && x.1.kind != .manyToMany) := rfl

theorem mkRefB_inline_true (r : RSpec) (hk : r.kind ≠ .manyToMany) : (mkRefB (r, true)).inline = true := by
  rw [mkRefB_inline]; simpa using hk

theorem mkRef_inline (r : RSpec) : (mkRef r).inline = false := rfl

theorem ColForm.bpB_false (F : ColForm σ) (ts : List (FTab σ)) (r : RSpec) :
    F.bpB ts (r, false) = refBp (F.rtext ts r) := rfl

/-- **names resolve to the positions they were written from** -/
theorem ColForm.buildRefB_ok (F : ColForm σ) (ts : List (FTab σ)) (hr : F.Resolvable ts) (x : RSpec × Bool)
    (hin : F.RSpecIn ts x.1) (db : Db) (hdb : db.tables = ts.map F.mkTable) :
    buildRef db (F.bpB ts x) = .ok (mkRefB x) := by
  obtain ⟨r, b⟩ := x
  obtain ⟨ta, tb, h1, h2, hc1, hc2⟩ := hin
  have hca : ta.cols[r.c1]? = some ta.cols[r.c1] := List.getElem?_eq_getElem hc1
  have hcb : tb.cols[r.c2]? = some tb.cols[r.c2] := List.getElem?_eq_getElem hc2
  unfold buildRef
  simp only [ColForm.bpB, refBp, ColForm.rtext, hdb, F.tnameAt_eq h1, F.tnameAt_eq h2, F.cnameAt_eq h1 hc1, F.cnameAt_eq h2 hc2, F.locateTable_ok ts hr r.t1 ta h1,
    F.locateTable_ok ts hr r.t2 tb h2, F.colsAt_ok ts hr r.t1 r.c1 ta _ h1 hca, F.colsAt_ok ts hr r.t2 r.c2 tb _ h2 hcb,
    bind, Except.bind, pure, Except.pure]
  rfl

theorem ColForm.buildRef_ok (F : ColForm σ) (ts : List (FTab σ)) (hr : F.Resolvable ts) (r : RSpec)
    (hin : F.RSpecIn ts r) (db : Db) (hdb : db.tables = ts.map F.mkTable) :
    buildRef db (refBp (F.rtext ts r)) = .ok (mkRef r) :=
  F.buildRefB_ok ts hr (r, false) hin db hdb

theorem ColForm.colEq_ok (F : ColForm σ) (ts : List (FTab σ)) (hr : F.Resolvable ts) (db : Db)
    (hdb : db.tables = ts.map F.mkTable) (ti ci tj cj : Nat) (ta tb : FTab σ) (hi : ts[ti]? = some ta)
    (hj : ts[tj]? = some tb) (hci : ci < ta.cols.length) (hcj : cj < tb.cols.length)
    (h : Dbml.colEq db ti ci tj cj = true) : ti = tj ∧ ci = cj := by
  unfold Dbml.colEq at h
  simp only [Bool.or_eq_true, Bool.and_eq_true, beq_iff_eq] at h
  rcases h with h | h
  · exact h
  · rw [hdb] at h
    simp only [List.getElem?_map, hi, hj, Option.map_some, Bool.and_eq_true, beq_iff_eq] at h
    obtain ⟨hfn, hcols⟩ := h
    have hname : ta.name = tb.name := by
      simp only [ColForm.mkTable, ColForm.table, Table.fullName] at hfn
      exact fullName_inj _ _ hfn
    simp only [ColForm.mkTable, ColForm.table, List.getElem?_map, List.getElem?_eq_getElem hci, List.getElem?_eq_getElem hcj,
      Option.map_some, beq_iff_eq] at hcols
    exact F.names_inj ts hr ti tj ci cj ta tb hi hj hci hcj hname (congrArg Column.name hcols)

theorem refEq_mkRef (db : Db) (r m : RSpec) : refEq db (mkRef r) (mkRef m)
    = (r.kind == m.kind && Dbml.colEq db r.t1 r.c1 m.t1 m.c1 && Dbml.colEq db r.t2 r.c2 m.t2 m.c2) := by
  simp [refEq, mkRef]

theorem ColForm.refEq_ok (F : ColForm σ) (ts : List (FTab σ)) (hr : F.Resolvable ts) (db : Db)
    (hdb : db.tables = ts.map F.mkTable) (r m : RSpec) (hr1 : F.RSpecIn ts r) (hm1 : F.RSpecIn ts m)
    (h : refEq db (mkRef r) (mkRef m) = true) : r = m := by
  obtain ⟨ra, rb, h1, h2, h3, h4⟩ := hr1
  obtain ⟨ma, mb, g1, g2, g3, g4⟩ := hm1
  rw [refEq_mkRef] at h
  simp only [Bool.and_eq_true, beq_iff_eq] at h
  obtain ⟨⟨hk, hc1⟩, hc2⟩ := h
  obtain ⟨e1, e2⟩ := F.colEq_ok ts hr db hdb _ _ _ _ ra ma h1 g1 h3 g3 hc1
  obtain ⟨e3, e4⟩ := F.colEq_ok ts hr db hdb _ _ _ _ rb mb h2 g2 h4 g4 hc2
  cases r; cases m
  simp only [RSpec.mk.injEq]
  exact ⟨hk, e1, e2, e3, e4⟩

theorem refEq_mkRefB (db : Db) (x y : RSpec × Bool) : refEq db (mkRefB x) (mkRefB y) = refEq db (mkRef x.1) (mkRef y.1) := rfl

theorem ColForm.foldlM_refsB (F : ColForm σ) (ts : List (FTab σ)) (hr : F.Resolvable ts) (db1 : Db)
    (hdb : db1.tables = ts.map F.mkTable) :
    ∀ (todo done : List (RSpec × Bool)), (∀ x ∈ done ++ todo, F.RSpecIn ts x.1) → ((done ++ todo).map Prod.fst).Nodup →
    (todo.map (F.bpB ts)).foldlM (refStep db1) (done.map mkRefB) = .ok ((done ++ todo).map mkRefB) := by
  intro todo done hin hnd
  refine Exc.foldlM_extend (R := fun u x => F.RSpecIn ts u.1 ∧ u.1 ≠ x.1) (P := fun x => F.RSpecIn ts x.1) ?_ todo done
    ((List.pairwise_map.mp hnd).imp_of_mem fun ha _ hne => ⟨hin _ ha, hne⟩) (fun x hx => hin x (by simp [hx]))
  intro done r hd hrin
  unfold refStep
  rw [F.buildRefB_ok ts hr r hrin db1 hdb]
  have hno : (done.map mkRefB).any (fun m => refEq { db1 with refs := done.map mkRefB } (mkRefB r) m) = false := by
    rw [List.any_eq_false]
    intro m hm heq
    obtain ⟨d, hdm, rfl⟩ := List.mem_map.mp hm
    rw [refEq_mkRefB] at heq
    exact (hd d hdm).2 (F.refEq_ok ts hr { db1 with refs := done.map mkRefB } hdb r.1 d.1 hrin (hd d hdm).1 heq).symm
  simp [hno, bind, Except.bind, pure, Except.pure]

def ColForm.mkDb (F : ColForm σ) (ap : Bool) (ts : List (FTab σ)) (rs : List RSpec) : Db :=
  { tables := ts.map F.mkTable, refs := rs.map mkRef, allowProps := ap }

theorem refBlueprints_append (a b : List Bp.Elem) : refBlueprints (a ++ b) = refBlueprints a ++ refBlueprints b := by
  simp [refBlueprints, List.flatMap_append]

theorem refBlueprints_refElems (l : List RText) : refBlueprints (l.map mkRefElem) = l.map refBp := by
  induction l with
  | nil => rfl
  | cons x xs ih =>
    simp only [refBlueprints, List.map_cons, List.flatMap_cons, mkRefElem] at ih ⊢
    rw [ih]
    rfl

theorem ColForm.build_tables_refs_of (F : ColForm σ) (ap : Bool) (ts : List (FTab σ)) (rs : List RSpec)
    (hr : F.Resolvable ts) (hcol : ∀ t ∈ ts, ∀ s ∈ t.cols, buildColumn [] (F.bp s) = .ok (F.col s))
    (hin : ∀ r ∈ rs, F.RSpecIn ts r) (hnd : rs.Nodup)
    (hno : ∀ t ∈ ts, ∀ s ∈ t.cols, F.irefs s = []) (hnn : ∀ t ∈ ts, norm t.note = t.note) :
    buildDatabase ap (ts.map F.mkElem ++ (rs.map (F.rtext ts)).map mkRefElem) = .ok (F.mkDb ap ts rs) := by
  obtain ⟨hT, hE, hG, hS, hP⟩ : tableBps (ts.map F.mkElem ++ (rs.map (F.rtext ts)).map mkRefElem)
        = (ts.map fun t => F.tableBpC t.name t.cols t.note t.comment)
      ∧ enumBps (ts.map F.mkElem ++ (rs.map (F.rtext ts)).map mkRefElem) = []
      ∧ groupBps (ts.map F.mkElem ++ (rs.map (F.rtext ts)).map mkRefElem) = []
      ∧ stickyBps (ts.map F.mkElem ++ (rs.map (F.rtext ts)).map mkRefElem) = []
      ∧ projectBp (ts.map F.mkElem ++ (rs.map (F.rtext ts)).map mkRefElem) = none := by
    simp [tableBps, enumBps, groupBps, stickyBps, projectBp, ColForm.mkElem, mkRefElem, List.filterMap_append,
      List.filterMap_map, Function.comp_def]
  have hR : refBlueprints (ts.map F.mkElem ++ (rs.map (F.rtext ts)).map mkRefElem)
      = (rs.map fun r => (r, false)).map (F.bpB ts) := by
    rw [refBlueprints_append, F.refBlueprints_mkElem_nil ts hno, refBlueprints_refElems]
    simp [List.map_map, Function.comp_def, ColForm.bpB_false]
  have hF := F.foldlM_tables_of [] ts [] (by simpa using hr.tnames) hcol hnn
  simp only [List.map_nil, List.nil_append] at hF
  have hRf := F.foldlM_refsB ts hr { tables := ts.map F.mkTable, enums := [], allowProps := ap, groups := [], sticky := [], project := none }
    rfl (rs.map fun r => (r, false)) [] (by simpa using hin) (by simpa [List.map_map, Function.comp_def] using hnd)
  simp only [List.map_nil, List.nil_append] at hRf
  unfold buildDatabase
  simp only [hT, hE, hG, hS, hP, hR, List.foldlM_nil, pure, Except.pure, bind, Except.bind, hF, buildProject, List.map_nil]
  rw [hRf, List.map_map]
  rfl

theorem ColForm.build_tables_refs (F : ColForm σ) (ap : Bool) (ts : List (FTab σ)) (rs : List RSpec)
    (hr : F.Resolvable ts) (hok : ∀ t ∈ ts, F.allOK ap t.cols) (hin : ∀ r ∈ rs, F.RSpecIn ts r) (hnd : rs.Nodup)
    (hno : ∀ t ∈ ts, ∀ s ∈ t.cols, F.irefs s = []) (hnn : ∀ t ∈ ts, norm t.note = t.note) :
    buildDatabase ap (ts.map F.mkElem ++ (rs.map (F.rtext ts)).map mkRefElem) = .ok (F.mkDb ap ts rs) :=
  F.build_tables_refs_of ap ts rs hr (fun t ht s hs => F.build ap [] s (hok t ht s hs) rfl) hin hnd hno hnn

theorem ColForm.getD?_mkTable (F : ColForm σ) {db : Db} {ts : List (FTab σ)} (hdb : db.tables = ts.map F.mkTable) {i : Nat}
    {t : FTab σ} (h : ts[i]? = some t) (why : String) : getD? db.tables i why = .ok (F.mkTable t) := by
  simp [getD?, hdb, List.getElem?_map, h]

theorem ColForm.getD?_column (F : ColForm σ) (t : FTab σ) {j : Nat} (hj : j < t.cols.length) (why : String) :
    getD? (F.mkTable t).columns j why = .ok (F.col t.cols[j]) := by
  simp [getD?, ColForm.mkTable, ColForm.table, List.getElem?_map, List.getElem?_eq_getElem hj]

theorem ColForm.qualName_mkTable (F : ColForm σ) (t : FTab σ) :
    qualName (F.mkTable t).schema (F.mkTable t).name = '"' :: t.name ++ ['"'] := by
  simp [qualName, ColForm.mkTable, ColForm.table]

theorem ColForm.renderCols_one (F : ColForm σ) (t : FTab σ) {j : Nat} (hj : j < t.cols.length) :
    Dbml.renderCols (F.mkTable t) [j] = .ok ('"' :: (F.cname t.cols[j] ++ ['"'])) := by
  simp [Dbml.renderCols, F.getD?_column t hj, ColForm.cname, bind, Except.bind, pure, Except.pure]

theorem ColForm.renderRef_ok (F : ColForm σ) (db : Db) (ts : List (FTab σ)) (hdb : db.tables = ts.map F.mkTable)
    (r : RSpec) (hin : F.RSpecIn ts r) : Dbml.renderRef db (mkRef r) = .ok (refText (F.rtext ts r)) := by
  obtain ⟨ta, tb, h1, h2, hc1, hc2⟩ := hin
  unfold Dbml.renderRef
  simp only [mkRef_inline r, Bool.false_eq_true, ↓reduceIte]
  show (getD? db.tables r.t1 "ref table position" >>= fun t1 => _) = _
  rw [F.getD?_mkTable hdb h1]
  show (getD? db.tables r.t2 "ref table position" >>= fun t2 => _) = _
  rw [F.getD?_mkTable hdb h2]
  simp only [mkRef, bind, Except.bind, F.renderCols_one ta hc1, F.renderCols_one tb hc2, pure, Except.pure]
  simp [refText, refTextP, sideText, ColForm.rtext, F.tnameAt_eq h1, F.tnameAt_eq h2, F.cnameAt_eq h1 hc1, F.cnameAt_eq h2 hc2,
    truthy, Dbml.optComment, F.qualName_mkTable, lit]

theorem ColForm.renderRefs_ok (F : ColForm σ) (db : Db) (ts : List (FTab σ)) (hdb : db.tables = ts.map F.mkTable)
    (rs : List RSpec) (hfil : db.refs.filter (!·.inline) = rs.map mkRef) (hin : ∀ r ∈ rs, F.RSpecIn ts r) :
    (db.refs.filter (!·.inline)).mapM (Dbml.renderRef db) = .ok ((rs.map (F.rtext ts)).map refText) := by
  rw [hfil, List.mapM_map, List.map_map]
  exact mapM_ok_map_mem _ _ rs (fun r hr => F.renderRef_ok db ts hdb r (hin r hr))

theorem ColForm.docTailR_eq (F : ColForm σ) (rs : List RText) :
    ∀ (ts : List (FTab σ)), F.docTailR ts rs = F.docTail ts ++ refsTail rs := by
  intro ts
  induction ts with
  | nil => simp [ColForm.docTailR, ColForm.docTail]
  | cons t r ih => simp [ColForm.docTailR, ColForm.docTail, ih, F.tabTextP_append]

theorem ColForm.docTextR_eq (F : ColForm σ) (ts : List (FTab σ)) (rs : List RText) (hts : ts ≠ []) (hrs : rs ≠ []) :
    joinWith (lit "\n\n") ((ts.map fun t => F.tabText t) ++ rs.map refText) = F.docTextR ts rs := by
  rw [joinWith_append _ _ _ (by simpa using hts) (by simpa using hrs), F.joinWith_tables, List.append_assoc, joinWith_refs rs hrs]
  cases ts with
  | nil => exact absurd rfl hts
  | cons t r => simp [ColForm.docText, ColForm.docTextR, F.docTailR_eq, F.tabTextP_append]

theorem ColForm.renderDb_tables_refs (F : ColForm σ) (ap : Bool) (ts : List (FTab σ)) (rs : List RSpec)
    (hok : ∀ t ∈ ts, F.specOK ap t) (hin : ∀ r ∈ rs, F.RSpecIn ts r) (hts : ts ≠ []) (hrs : rs ≠ [])
    (hno : ∀ t ∈ ts, ∀ s ∈ t.cols, F.irefs s = []) :
    Dbml.renderDb (F.mkDb ap ts rs) = .ok (F.docTextR ts (rs.map (F.rtext ts))) := by
  have hni : ∀ r ∈ rs.map mkRef, r.inline = false := List.forall_mem_map.mpr fun q _ => mkRef_inline q
  have htabs := F.renderTables_ok (F.mkDb ap ts rs) ts rfl hok
    fun ti t ht => F.inl_plain _ hni ti t.cols (hno t (List.mem_of_getElem? ht))
  have hrefs := F.renderRefs_ok (F.mkDb ap ts rs) ts rfl rs
    (List.filter_eq_self.mpr fun r hr => by simp [hni r hr]) hin
  unfold Dbml.renderDb Dbml.renderProjectList
  simp only [bind, Except.bind, htabs, hrefs]
  have hd := F.docTextR_eq ts (rs.map (F.rtext ts)) hts (by simpa using hrs)
  rw [List.map_map] at hd
  simp [ColForm.mkDb, pure, Except.pure, hd]

theorem ColForm.rtext_ok (F : ColForm σ) (ap : Bool) (ts : List (FTab σ)) (rs : List RSpec)
    (hok : ∀ t ∈ ts, F.specOK ap t) (hnames : ∀ t ∈ ts, ∀ s ∈ t.cols, NameOK (F.cname s)) (hin : ∀ r ∈ rs, F.RSpecIn ts r) :
    ∀ x ∈ rs.map (F.rtext ts), RTextOK x := by
  intro x hx
  obtain ⟨r, hr, rfl⟩ := List.mem_map.mp hx
  obtain ⟨ta, tb, h1, h2, hc1, hc2⟩ := hin r hr
  have hma := List.mem_of_getElem? h1
  have hmb := List.mem_of_getElem? h2
  simp only [RTextOK, ColForm.rtext, F.tnameAt_eq h1, F.tnameAt_eq h2, F.cnameAt_eq h1 hc1, F.cnameAt_eq h2 hc2]
  exact ⟨(hok ta hma).1, hnames ta hma _ (List.getElem_mem hc1), (hok tb hmb).1, hnames tb hmb _ (List.getElem_mem hc2)⟩

/-- **C02 / C05 for tables followed by standalone single-column references, generic in the form of the columns** (none
    declaring an inline reference, `hno`): rendered to DBML and parsed back, every reference is resolved - by table name and
    column name - to the very positions it was written from. -/
theorem form_refs_roundtrip (F : ColForm σ) (ap : Bool) (ts : List (FTab σ)) (rs : List RSpec)
    (hok : ∀ t ∈ ts, F.specOK ap t) (hnames : ∀ t ∈ ts, ∀ s ∈ t.cols, NameOK (F.cname s)) (hts : ts ≠ [])
    (hres : F.Resolvable ts) (hin : ∀ r ∈ rs, F.RSpecIn ts r) (hrs : rs ≠ []) (hnd : rs.Nodup)
    (hno : ∀ t ∈ ts, ∀ s ∈ t.cols, F.irefs s = []) :
    ∃ text, Dbml.renderDb (F.mkDb ap ts rs) = .ok text ∧ Build.parse ap text = .ok (F.mkDb ap ts rs) := by
  have hrok := F.rtext_ok ap ts rs hok hnames hin
  refine roundtrip_of ap _ (F.docTextR ts (rs.map (F.rtext ts))) _ (F.renderDb_tables_refs ap ts rs hok hin hts hrs hno)
    (F.parseDoc_tables_refs ap ts (rs.map (F.rtext ts)) hok hrok hts) ?_
    (F.build_tables_refs ap ts rs hres (fun t ht => (hok t ht).2.1) hin hnd hno (fun t ht => (hok t ht).2.2.2.2.2.2))
  obtain ⟨t, r, rfl⟩ := List.exists_cons_of_ne_nil hts
  rw [ColForm.docTextR, F.tabTextP_append, ← F.tableE_text ap t (hok t (by simp))]
  exact EForm.text_removeBom _ _

end C02
end PyDBML
