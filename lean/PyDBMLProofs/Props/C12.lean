/-
C12 — all documented ways of supplying the source give the same database.
-/
import PyDBMLModel
namespace PyDBML
namespace C12
open Entry

def accepts (r : Route) (k : SourceKind) : Bool :=
  match r, k with
  | .ctor, .str | .ctor, .path | .ctor, .textFile => true
  | .parseStatic, .str | .instanceParse, .str => true
  | .parseFile, .pathString | .parseFile, .path | .parseFile, .textFile => true
  | _, _ => false

theorem entry_of_accepts (r : Route) (k : SourceKind) (content : Str) (o : Opts) (h : accepts r k = true) :
    entry r k content o = .parser (removeBom content) (if r = .parseFile then {} else o) := by
  cases r <;> cases k <;> first | rfl | cases h

/-- every accepting route hands the parser the content with one leading byte-order mark removed -/
theorem routes_agree_on_text (r r' : Route) (k k' : SourceKind) (content : Str) (o o' : Opts)
    (h : accepts r k = true) (h' : accepts r' k' = true) :
    ∃ p p', entry r k content o = .parser (removeBom content) p
          ∧ entry r' k' content o' = .parser (removeBom content) p' :=
  ⟨_, _, entry_of_accepts r k content o h, entry_of_accepts r' k' content o' h'⟩

/-- options reach the parser unchanged; `parse_file` takes none -/
theorem options_unchanged (r : Route) (k : SourceKind) (content : Str) (o : Opts)
    (h : accepts r k = true) (hr : r ≠ .parseFile) :
    entry r k content o = .parser (removeBom content) o := by
  rw [entry_of_accepts r k content o h, if_neg hr]

theorem parse_file_defaults (k : SourceKind) (content : Str) (o : Opts) (h : accepts .parseFile k = true) :
    entry .parseFile k content o = .parser (removeBom content) {} :=
  entry_of_accepts .parseFile k content o h

/-- …hence identical databases, with equal options, on all accepting routes but `parse_file` -/
theorem routes_agree (r r' : Route) (k k' : SourceKind) (content : Str) (o : Opts)
    (h : accepts r k = true) (h' : accepts r' k' = true) (hr : r ≠ .parseFile) (hr' : r' ≠ .parseFile) :
    run r k content o = run r' k' content o := by
  unfold run
  rw [options_unchanged r k content o h hr, options_unchanged r' k' content o h' hr']

theorem routes_agree_default (r : Route) (k k' : SourceKind) (content : Str)
    (h : accepts r k = true) (h' : accepts .parseFile k' = true) :
    run r k content {} = run .parseFile k' content {} := by
  unfold run
  rw [entry_of_accepts r k content {} h, entry_of_accepts _ k' content {} h', ite_self]
  rfl

theorem removeBom_bom (content : Str) : removeBom (Char.ofNat 0xFEFF :: content) = content := by simp [removeBom]

/-- a leading byte-order mark is ignored on every route (`remove_bom` strips a single one: hence `hb`) -/
theorem bom_ignored (r : Route) (k : SourceKind) (content : Str) (o : Opts) (h : accepts r k = true)
    (hb : ∀ c rest, content = c :: rest → c.toNat ≠ 0xFEFF) :
    entry r k (Char.ofNat 0xFEFF :: content) o = entry r k content o := by
  have h2 : removeBom content = content := by
    cases content with
    | nil => rfl
    | cons c rest => simp [removeBom, hb c rest rfl]
  rw [entry_of_accepts r k _ o h, entry_of_accepts r k _ o h, removeBom_bom, h2]

theorem other_type_refused (content : Str) (o : Opts) : entry .ctor .other content o = .typeError := rfl

end C12
end PyDBML
