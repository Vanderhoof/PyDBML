/-
C09, one level down (`TableCont.lean`) — a table's column and index lists stay consistent with the owner
back-pointers under any sequence of `add_column`, `delete_column`, `add_index`, `delete_index`; a refused
`add_column` or `delete_*` changes nothing; an index over a column the table does not hold is refused (its object
is created all the same, detached).
-/
import PyDBMLProofs.Props.C09
namespace PyDBML
namespace C09T
open TCont
open C09 (Linked)

def cFlag (s : St) (i : Nat) : Option Bool := (s.C[i]?).map fun c => c.owner == Owner.this
def iFlag (s : St) (i : Nat) : Option Bool := (s.I[i]?).map (·.attached)

/-- the lists hold no object twice, a column's `table` is this table exactly when the column is in `columns`, an
    index's `table` is set exactly when it is in `indexes` -/
structure Inv (s : St) : Prop where
  cols : Linked s.cols (cFlag s)
  idxs : Linked s.idxs (iFlag s)

theorem iFlag_setOwner (s : St) (i : Nat) (o : Owner) (j : Nat) : iFlag (setOwner s i o) j = iFlag s j := rfl
theorem cFlag_setAttached (s : St) (i : Nat) (b : Bool) (j : Nat) : cFlag (setAttached s i b) j = cFlag s j := rfl

theorem colIndex_some {s : St} {i k : Nat} (h : colIndex s i = some k) :
    ∃ m, s.cols[k]? = some m ∧ (m = i ∨ cEq s i m = true) ∧ ∀ k' (_ : k' < k) (hl : k' < s.cols.length),
      s.cols[k'] ≠ i ∧ cEq s i s.cols[k'] = false := by
  unfold colIndex at h
  obtain ⟨hk, hp, hbefore⟩ := List.findIdx?_eq_some_iff_getElem.mp h
  refine ⟨s.cols[k], List.getElem?_eq_getElem hk, ?_, ?_⟩
  · simp only [Bool.or_eq_true, beq_iff_eq] at hp; exact hp
  · intro k' hk' hl
    have := hbefore k' hk'
    simp only [Bool.or_eq_true, beq_iff_eq, not_or, Bool.not_eq_true] at this
    exact this

theorem idxIndex_some {s : St} {i k : Nat} (h : idxIndex s i = some k) :
    ∃ m, s.idxs[k]? = some m ∧ (m = i ∨ iEq s i m = true) := by
  unfold idxIndex at h
  obtain ⟨hk, hp, _⟩ := List.findIdx?_eq_some_iff_getElem.mp h
  refine ⟨s.idxs[k], List.getElem?_eq_getElem hk, ?_⟩
  simp only [Bool.or_eq_true, beq_iff_eq] at hp; exact hp

theorem step_inv (s : St) (op : Op) (h : Inv s) : Inv (step s op).1 := by
  cases op with
  | addColumn i =>
    simp only [step]
    split
    · exact h
    · rename_i c hc
      split
      · exact h
      · rename_i ho
        have hni : i ∉ s.cols := fun hm => by
          have := (h.cols.2 i).mpr hm
          simp_all [cFlag]
        exact { h with cols := h.cols.add_modify hni hc rfl }
  | deleteColumnPos k =>
    simp only [step]
    split
    · exact h
    · rename_i m hk
      exact { h with cols := h.cols.del_modify hk fun _ => rfl }
  | deleteColumnObj i =>
    simp only [step]
    repeat' split
    all_goals first | exact h | skip
    rename_i m hk
    exact { h with cols := h.cols.del_modify hk fun _ => rfl }
  | newIndex subs cls =>
    simp only [step]
    have hnew : s.I.length ∉ s.idxs := fun hm => Nat.lt_irrefl _ (h.idxs.lt hm)
    have hsnoc := h.idxs.snoc (x := ({ subjects := subs, cls := cls } : IObj)) rfl
    split
    · exact { h with idxs := hsnoc.add_modify hnew List.getElem?_concat_length rfl }
    · exact { h with idxs := hsnoc }
  | deleteIndexPos k =>
    simp only [step]
    split
    · exact h
    · rename_i m hk
      exact { h with idxs := h.idxs.del_modify hk fun _ => rfl }
  | deleteIndexObj i =>
    simp only [step]
    repeat' split
    all_goals first | exact h | skip
    rename_i m hk
    exact { h with idxs := h.idxs.del_modify hk fun _ => rfl }

theorem reach_inv (s : St) (ops : List Op) (h : Inv s) : Inv (run s ops) := by
  unfold run
  induction ops generalizing s with
  | nil => exact h
  | cons op rest ih => exact ih _ (step_inv s op h)

theorem init_inv (C : List CObj) (hC : ∀ c ∈ C, c.owner ≠ Owner.this) : Inv { C := C } :=
  ⟨Linked.nil fun c hc => by simpa using hC c hc, Linked.nil fun _ h => nomatch h⟩

/-- a refused operation other than `add_index` leaves the table exactly as it was -/
theorem rejected_unchanged (s : St) (op : Op) (hop : ∀ subs cls, op ≠ Op.newIndex subs cls)
    (h : (step s op).2 ≠ Outcome.ok) : (step s op).1 = s := by
  generalize hr : step s op = r at h ⊢
  cases op with
  | newIndex subs cls => exact absurd rfl (hop subs cls)
  | _ => dsimp only [step] at hr <;> (repeat' split at hr) <;> subst hr <;> first | rfl | exact absurd rfl h

/-- an index over a column the table does not hold is refused; lists and columns stay, the index is not attached -/
theorem foreign_index_refused (s : St) (subs : List Subj) (cls : Nat) (i : Nat) (hi : Subj.col i ∈ subs)
    (hown : ∀ c, s.C[i]? = some c → c.owner ≠ Owner.this) :
    (step s (.newIndex subs cls)).2 = Outcome.notFound
      ∧ (step s (.newIndex subs cls)).1.cols = s.cols ∧ (step s (.newIndex subs cls)).1.idxs = s.idxs
      ∧ (step s (.newIndex subs cls)).1.C = s.C
      ∧ iFlag (step s (.newIndex subs cls)).1 s.I.length = some false := by
  have hno : subjectsOwn s subs = false := by
    unfold subjectsOwn
    rw [List.all_eq_false]
    refine ⟨Subj.col i, hi, ?_⟩
    cases hq : s.C[i]? with
    | none => simp [hq]
    | some c => simpa [hq] using hown c hq
  simp only [step, hno, Bool.false_eq_true, ↓reduceIte, true_and]
  simp [iFlag]

theorem accepted_index_subjects (s : St) (h : Inv s) (subs : List Subj) (cls : Nat)
    (hok : (step s (.newIndex subs cls)).2 = Outcome.ok) : ∀ i, Subj.col i ∈ subs → i ∈ s.cols := by
  intro i hi
  have hown : subjectsOwn s subs = true := by
    cases hq : subjectsOwn s subs with
    | true => rfl
    | false => simp [step, hq] at hok
  unfold subjectsOwn at hown
  have := List.all_eq_true.mp hown (Subj.col i) hi
  apply (h.cols.2 i).mp
  unfold cFlag
  cases hq : s.C[i]? with
  | none => simp [hq] at this
  | some c => simpa [hq] using this

/-- the column list is "added and not deleted, in insertion order": it stays, or `add_column` appends, or
    `delete_column(obj)` removes the FIRST member that is the argument or equals it, `delete_column(k)` the k-th
    (whether the operation was accepted is not said) -/
theorem cols_step (s : St) (op : Op) :
    (step s op).1.cols = s.cols
    ∨ (∃ i, op = .addColumn i ∧ (step s op).1.cols = s.cols ++ [i])
    ∨ (∃ k m, s.cols[k]? = some m ∧ (step s op).1.cols = s.cols.eraseIdx k
        ∧ (op = .deleteColumnPos k ∨ ∃ i, op = .deleteColumnObj i ∧ (m = i ∨ cEq s i m = true)
            ∧ ∀ k' (_ : k' < k) (hl : k' < s.cols.length), s.cols[k'] ≠ i ∧ cEq s i s.cols[k'] = false)) := by
  cases op with
  | addColumn i =>
    simp only [step]
    cases hc : s.C[i]? with
    | none => exact Or.inl rfl
    | some c =>
      simp only
      split
      · exact Or.inl rfl
      · exact Or.inr (Or.inl ⟨i, rfl, rfl⟩)
  | deleteColumnPos k =>
    simp only [step]
    cases hk : s.cols[k]? with
    | none => exact Or.inl rfl
    | some m => exact Or.inr (Or.inr ⟨k, m, hk, rfl, Or.inl rfl⟩)
  | deleteColumnObj i =>
    simp only [step]
    split
    · exact Or.inl rfl
    · cases hci : colIndex s i with
      | none => exact Or.inl rfl
      | some k =>
        obtain ⟨m, hm, heq, hfirst⟩ := colIndex_some hci
        simp only [hm]
        exact Or.inr (Or.inr ⟨k, m, hm, rfl, Or.inr ⟨i, rfl, heq, hfirst⟩⟩)
  | _ =>
    dsimp only [step]
    repeat' split
    all_goals exact Or.inl rfl

/-- non-vacuity: the universe the harness uses (two look-alike columns, a column of another table) -/
example : Inv { C := [{ cls := 0 }, { cls := 1 }, { cls := 0 }, { cls := 2 }, { cls := 9, owner := .other }] } :=
  init_inv _ (by intro c hc; simp at hc; rcases hc with rfl | rfl | rfl | rfl | rfl <;> decide)

end C09T
end PyDBML
