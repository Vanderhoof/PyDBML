/-
C08 — no internal errors.  What the parser model can raise, for ANY input text.
-/
import PyDBMLProofs.Hoare
import PyDBMLProofs.Props.C06
namespace PyDBML
namespace C08
open Lex Grammar Hoare Build Exc

/-- the only exceptions a parse action of the grammar raises: `SyntaxError` of a column-less table,
    and `ValueError` of `int()` on a literal of more than 4300 digits (known finding) -/
def Allowed (e : PErr) : Prop := e = .noColumns ∨ e = .internal .ValueError

macro "raises_tac" : tactic => `(tactic| repeat' (first
  | infer_instance
  | apply raises_bind
  | apply raises_cut
  | apply raises_alt
  | apply raises_opt
  | apply raises_manyF
  | apply raises_orLongest
  | apply raises_skipWs
  | intro _
  | split))

variable {E : PErr → Prop}

instance : Raises E skipNl := by unfold skipNl; raises_tac
instance : Raises E cBefore := by unfold cBefore; raises_tac
instance : Raises E cOpt := by unfold cOpt; raises_tac
instance : Raises E endRule := by unfold endRule; raises_tac
instance : Raises E noteRule := by unfold noteRule; raises_tac
instance : Raises E noteObject := by unfold noteObject; raises_tac
instance : Raises E noteElement := by unfold noteElement; raises_tac

theorem raises_expr (fuel : Nat) : Raises E (factor fuel) ∧ Raises E (expression fuel) := by
  induction fuel with
  | zero => exact ⟨by unfold factor; infer_instance, by unfold expression; infer_instance⟩
  | succ n ih =>
    have hf : Raises E (factor (n + 1)) := by
      have := ih.2
      unfold factor; raises_tac
    have := ih.1
    exact ⟨hf, expression_succ n ▸ inferInstance⟩

instance (fuel : Nat) : Raises E (factor fuel) := (raises_expr fuel).1
instance (fuel : Nat) : Raises E (expression fuel) := (raises_expr fuel).2

instance : Raises E typeArgs :=
  raises_iff.mpr (ensures_typeArgs (M := fun _ _ => True) (fun _ _ => trivial)
    (fun _ => raises_iff.mp inferInstance) (fun _ => raises_iff.mp inferInstance))

instance : Raises E nameRaw := raises_iff.mpr (ensures_nameRaw (raises_iff.mp inferInstance))

instance : Raises E columnType := by unfold columnType; raises_tac
instance : Raises E colName := by unfold colName; raises_tac
instance : Raises E refInline := by unfold refInline; raises_tac
instance : Raises E onOption := by unfold onOption; raises_tac
instance : Raises E refSetting := by unfold refSetting; raises_tac
instance : Raises E refSettings := by unfold refSettings; raises_tac
instance : Raises E whites := by unfold whites; prim_tac
instance : Raises E compositeName := by unfold compositeName; raises_tac
instance : Raises E nameOrComposite := by unfold nameOrComposite; raises_tac
instance : Raises E refCols := by unfold refCols; raises_tac
instance (nm : Option Str) (before : List Str) : Raises E (refBody nm before) := by unfold refBody; raises_tac
instance : Raises E refShort := by unfold refShort; raises_tac
instance : Raises E refLong := by unfold refLong; raises_tac
instance : Raises E refRule := by unfold refRule; raises_tac
instance : Raises E booleanLiteral := by unfold booleanLiteral; raises_tac

instance (t : Str) : Raises Allowed (numberValue t) := by
  unfold numberValue
  split
  · infer_instance
  · split
    · exact raises_pexn _ (Or.inr rfl)
    · infer_instance

theorem numberValue_raises_only_long (t : Str) (c : Cur) (e : PErr) (h : numberValue t c = .exn e) :
    t.length > 4300 ∧ e = .internal .ValueError := by
  unfold numberValue at h
  split at h
  · cases h
  · split at h
    · rename_i hl
      simp only [pexn, Res.exn.injEq] at h
      exact ⟨hl, h.symm⟩
    · cases h

instance : Raises Allowed defaultRule := by unfold defaultRule; raises_tac
instance : Raises E prop := by unfold prop; raises_tac
instance : Raises Allowed columnSetting := by unfold columnSetting; raises_tac
instance : Raises Allowed columnSettingWithProperty := by unfold columnSettingWithProperty; raises_tac
instance : Raises Allowed columnSettings := by unfold columnSettings; raises_tac
instance : Raises Allowed columnSettingsWithProperties := by unfold columnSettingsWithProperties; raises_tac
instance (props : Bool) : Raises Allowed (tableColumn props) := by unfold tableColumn; raises_tac
instance : Raises E indexType := by unfold indexType; raises_tac
instance : Raises E indexSetting := by unfold indexSetting; raises_tac
instance : Raises E indexSettings := by unfold indexSettings; raises_tac
instance : Raises E subject := by unfold subject; raises_tac
instance : Raises E singleIndex := by unfold singleIndex; raises_tac
instance : Raises E compositeIndex := by unfold compositeIndex; raises_tac
instance : Raises E indexRule := by unfold indexRule; raises_tac
instance : Raises E indexesRule := by unfold indexesRule; raises_tac
instance : Raises E aliasRule := by unfold aliasRule; raises_tac
instance : Raises E headerColor := by unfold headerColor; raises_tac
instance : Raises E tableSetting := by unfold tableSetting; raises_tac
instance : Raises E tableSettings := by unfold tableSettings; raises_tac
instance (props : Bool) : Raises Allowed (tableElement props) := by unfold tableElement; raises_tac
instance : Raises E tableName := by unfold tableName; raises_tac
instance (props : Bool) : Raises Allowed (tableRule props) := by
  unfold tableRule
  raises_tac
  -- left: the parse action after the body; its `let`s reduced, what the walk cannot close is `pexn .noColumns`
  dsimp only
  raises_tac
  exact raises_pexn (E := Allowed) _ (Or.inl rfl)
instance : Raises E enumSettings := by unfold enumSettings; raises_tac
instance : Raises E enumItem := by unfold enumItem; raises_tac
instance : Raises E enumName := by unfold enumName; raises_tac
instance : Raises E enumRule := by unfold enumRule; raises_tac
instance : Raises E groupTableName := by unfold groupTableName; raises_tac
instance : Raises E tgElement := by unfold tgElement; raises_tac
instance : Raises E tgSetting := by unfold tgSetting; raises_tac
instance : Raises E tgSettings := by unfold tgSettings; raises_tac
instance : Raises E tableGroupRule := by unfold tableGroupRule; raises_tac
instance : Raises E projectField := by unfold projectField; raises_tac
instance : Raises E projectElement := by unfold projectElement; raises_tac
instance : Raises E projectRule := by unfold projectRule; raises_tac
instance : Raises E stickyNoteRule := by unfold stickyNoteRule; raises_tac
instance (props : Bool) : Raises Allowed (element props) := by unfold element; raises_tac
instance (props : Bool) : Raises Allowed (document props) := by unfold document; raises_tac

/-- **Any text**: an exception out of the grammar's parse actions is one of the two of `Allowed` -/
theorem parseDoc_raises (props : Bool) (text : Str) (e : PErr)
    (h : parseDoc props text = .exn e) : e = .noColumns ∨ e = .internal .ValueError :=
  (inferInstance : Raises Allowed (document props)).out _ _ h

/-- an exception of `pydbml.exceptions` (or the model declining: `outOfModel`) -/
def BuildErr (e : PErr) : Prop := (∃ n, e = .lib n) ∨ ∃ w, e = .outOfModel w

theorem buildNote_ne_error (n : Option Str) (e : PErr) : buildNote n ≠ .error e := by
  cases n <;> exact nofun

theorem buildDefault_error (d : Option Bp.DefaultBp) (e : PErr) (h : buildDefault d = .error e) : BuildErr e := by
  unfold buildDefault at h
  -- only a float literal can throw (out of the model)
  split at h <;> try (cases h; done)
  split at h <;> cases h
  exact .inr ⟨_, rfl⟩

theorem buildColumn_error (enums : List Enum) (c : Bp.ColBp) (e : PErr) (h : buildColumn enums c = .error e) :
    BuildErr e := by
  unfold buildColumn at h
  rcases bind_error h with h1 | ⟨d, _, h⟩
  · exact buildDefault_error _ _ h1
  rcases bind_error h with h1 | ⟨ty, _, h⟩
  · cases h1
  rcases bind_error h with h1 | ⟨n, _, h⟩
  · exact absurd h1 (buildNote_ne_error _ _)
  · cases h

theorem buildIndex_error (cols : List Column) (ix : Bp.IdxBp) (e : PErr) (h : buildIndex cols ix = .error e) :
    BuildErr e := by
  unfold buildIndex at h
  rcases bind_error h with h1 | ⟨n, _, h⟩
  · exact absurd h1 (buildNote_ne_error _ _)
  rcases bind_error h with h1 | ⟨ss, _, h⟩
  · obtain ⟨s, _, hs⟩ := mapM_error h1
    split at hs
    · cases hs
    · split at hs <;> cases hs
      exact .inl ⟨_, rfl⟩
  · cases h

theorem buildTable_error (enums : List Enum) (t : Bp.TableBp) (e : PErr) (h : buildTable enums t = .error e) :
    BuildErr e := by
  unfold buildTable at h
  rcases bind_error h with h1 | ⟨n, _, h⟩
  · exact absurd h1 (buildNote_ne_error _ _)
  rcases bind_error h with h1 | ⟨cols, _, h⟩
  · obtain ⟨c, _, hc⟩ := mapM_error h1
    exact buildColumn_error enums c e hc
  rcases bind_error h with h1 | ⟨idx, _, h⟩
  · obtain ⟨ix, _, hix⟩ := mapM_error h1
    exact buildIndex_error cols ix e hix
  · cases h

theorem locateCols_error (t : Table) (cols : Str) (e : PErr) (h : locateCols t cols = .error e) :
    e = .lib "ColumnNotFoundError" := by
  obtain ⟨c, _, hc⟩ := mapM_error h
  split at hc <;> cases hc
  rfl

theorem colsAt_error (ts : List Table) (i : Nat) (cols : Str) (e : PErr) (h : colsAt ts i cols = .error e) :
    BuildErr e := by
  unfold colsAt at h
  split at h
  · exact .inl ⟨_, locateCols_error _ _ _ h⟩
  · cases h
    exact .inr ⟨_, rfl⟩

theorem buildRef_error (db : Db) (r : Bp.RefBp) (e : PErr) (h : buildRef db r = .error e) : BuildErr e := by
  rcases C06.buildRef_inv db r with ⟨e', he, hl⟩ | ⟨tn1, tn2, cn1, cn2, mk, _, _, _, _, heq, _⟩
  · rw [he] at h; cases h
    exact .inl (hl.elim (fun e => ⟨_, e⟩) (fun e => ⟨_, e⟩))
  rw [heq] at h
  rcases bind_error h with h1 | ⟨t1, _, h⟩
  · exact .inl ⟨_, C06.locateTable_error _ _ _ _ h1⟩
  rcases bind_error h with h1 | ⟨c1, _, h⟩
  · exact colsAt_error _ _ _ _ h1
  rcases bind_error h with h1 | ⟨t2, _, h⟩
  · exact .inl ⟨_, C06.locateTable_error _ _ _ _ h1⟩
  rcases bind_error h with h1 | ⟨c2, _, h⟩
  · exact colsAt_error _ _ _ _ h1
  · cases h

theorem tableStep_error (enums : List Enum) (acc : List Table) (tb : Bp.TableBp) (e : PErr)
    (h : tableStep enums acc tb = .error e) : BuildErr e := by
  rcases bind_error h with h1 | ⟨t, _, h2⟩
  · exact buildTable_error _ _ _ h1
  · exact .inl ⟨_, C06.addTable_error _ _ _ h2⟩

theorem groupAddStep_error (db0 : Db) (acc : List Group) (gb : Bp.GroupBp) (e : PErr)
    (h : groupAddStep db0 acc gb = .error e) : BuildErr e := by
  rcases bind_error h with h1 | ⟨g, _, h2⟩
  · exact (C06.buildGroup_error _ _ _ h1).elim (fun h => .inl ⟨_, h⟩) (fun h => .inl ⟨_, h⟩)
  · split at h2 <;> cases h2
    exact .inl ⟨_, rfl⟩

theorem refStep_error (db1 : Db) (acc : List Ref) (rb : Bp.RefBp) (e : PErr)
    (h : refStep db1 acc rb = .error e) : BuildErr e := by
  rcases bind_error h with h1 | ⟨r, _, h2⟩
  · exact buildRef_error _ _ _ h1
  · split at h2 <;> cases h2
    exact .inl ⟨_, rfl⟩

theorem buildProject_ne_error (p : Option Bp.ProjectBp) (e : PErr) : buildProject p ≠ .error e := by
  intro h
  unfold buildProject at h
  split at h
  · rcases bind_error h with h2 | ⟨n, _, h2⟩
    · exact buildNote_ne_error _ _ h2
    · cases h2
  · cases h

theorem buildDatabase_error (ap : Bool) (es : List Bp.Elem) (e : PErr)
    (h : buildDatabase ap es = .error e) : BuildErr e := by
  unfold buildDatabase at h
  rcases bind_error h with h1 | ⟨enums, _, h⟩
  · obtain ⟨b, a, _, he⟩ := foldlM_error h1
    exact .inl ⟨_, C06.enumStep_error b a e he⟩
  rcases bind_error h with h1 | ⟨tables, _, h⟩
  · obtain ⟨b, a, _, he⟩ := foldlM_error h1
    exact tableStep_error _ b a e he
  rcases bind_error h with h1 | ⟨groups, _, h⟩
  · obtain ⟨b, a, _, he⟩ := foldlM_error h1
    exact groupAddStep_error _ b a e he
  rcases bind_error h with h1 | ⟨project, _, h⟩
  · exact absurd h1 (buildProject_ne_error _ _)
  rcases bind_error h with h1 | ⟨refs, _, h⟩
  · obtain ⟨b, a, _, he⟩ := foldlM_error h1
    exact refStep_error _ b a e he
  · cases h

/-- **C08, parsing, for any input text** (model of `PyDBML(text, allow_properties=…)`): a database, a parse error,
    `SyntaxError` for a column-less table, one of the library's own exceptions, `ValueError` from `int()` (the known
    finding) - or the model declines (`outOfModel`: a float literal of more than 15 digits).  No other class. -/
theorem parse_outcome (ap : Bool) (text : Str) :
    (∃ db, Build.parse ap text = .ok db) ∨ Build.parse ap text = .syntax
    ∨ Build.parse ap text = .err .noColumns
    ∨ Build.parse ap text = .err (.internal .ValueError)
    ∨ ∃ e, Build.parse ap text = .err e ∧ BuildErr e := by
  unfold Build.parse
  cases hp : parseDoc ap (removeBom text) with
  | ok es c =>
    simp only
    cases hb : buildDatabase ap es with
    | ok db => exact Or.inl ⟨db, rfl⟩
    | error e => exact Or.inr (Or.inr (Or.inr (Or.inr ⟨e, rfl, buildDatabase_error _ _ _ hb⟩)))
  | fail => exact Or.inr (Or.inl rfl)
  | fatal => exact Or.inr (Or.inl rfl)
  | exn e =>
    rcases parseDoc_raises _ _ _ hp with h | h
    · subst h; exact Or.inr (Or.inr (Or.inl rfl))
    · subst h; exact Or.inr (Or.inr (Or.inr (Or.inl rfl)))

end C08
end PyDBML
