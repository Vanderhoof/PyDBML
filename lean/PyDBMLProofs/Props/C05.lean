/-
C05 — a parsed database is one consistently linked object graph.  In the model links are positions; "never
dangles / is the very object held by the table" is: every position the build produces is in range, and is the
position of the object the document names.
-/
import PyDBMLProofs.Props.C06
namespace PyDBML
namespace C05
open Build Lex Exc

theorem findKey_in_range (tables : List Table) (key : Str) (i : Nat)
    (h : findKey tables key = some i) : i < tables.length := by
  obtain ⟨t, ht, _⟩ := C06.findKey_sound tables key i h
  exact (List.getElem?_eq_some_iff.mp ht).1

theorem locateTable_in_range (tables : List Table) (schema name : Str) (i : Nat)
    (h : locateTable tables schema name = .ok i) : i < tables.length := by
  obtain ⟨t, ht, _⟩ := C06.locateTable_sound tables schema name i h
  exact (List.getElem?_eq_some_iff.mp ht).1

/-- a reference side is linked to one column per comma-separated piece written, in order: the first column of the
    table with that name -/
theorem locateCols_sound (t : Table) (cols : Str) (is : List Nat) (h : locateCols t cols = .ok is) :
    is.length = (splitComma cols).length ∧
    ∀ k (hk : k < is.length), ∃ piece c, (splitComma cols)[k]? = some piece ∧ t.columns[is[k]]? = some c
      ∧ c.name = stripParenSpace piece
      ∧ ∀ j, j < is[k] → ∀ c', t.columns[j]? = some c' → c'.name ≠ stripParenSpace piece := by
  obtain ⟨hl, hk⟩ := mapM_ok h
  refine ⟨hl, fun k hk' => ?_⟩
  obtain ⟨piece, hp, hpi⟩ := hk k hk'
  refine ⟨piece, ?_⟩
  split at hpi
  · rename_i j hf
    cases hpi
    obtain ⟨hlt, hpj, hbefore⟩ := List.findIdx?_eq_some_iff_getElem.mp hf
    refine ⟨_, hp, List.getElem?_eq_getElem hlt, by simpa using hpj, fun j' hj' c' hc' => ?_⟩
    rw [List.getElem?_eq_getElem (Nat.lt_trans hj' hlt)] at hc'
    cases hc'
    simpa using hbefore j' hj'
  · cases hpi

theorem locateCols_in_range (t : Table) (cols : Str) (is : List Nat)
    (h : locateCols t cols = .ok is) : ∀ i ∈ is, i < t.columns.length := by
  intro i hi
  obtain ⟨k, hk, rfl⟩ := List.mem_iff_getElem.mp hi
  obtain ⟨_, c, _, hc, _⟩ := (locateCols_sound t cols is h).2 k hk
  exact (List.getElem?_eq_some_iff.mp hc).1

/-- a column type is linked only to an enum of the schema and name its text spells (bare = schema public), and to
    the first such -/
theorem resolveType_sound (enums : List Enum) (ty : Str) (i : Nat) (h : resolveTypePure enums ty = .enum i) :
    ∃ e, enums[i]? = some e ∧ e.schema = (typeKey ty).1 ∧ e.name = (typeKey ty).2
      ∧ ∀ j, j < i → ∀ e', enums[j]? = some e' → ¬ (e'.schema = (typeKey ty).1 ∧ e'.name = (typeKey ty).2) := by
  unfold resolveTypePure at h
  split at h
  · rename_i j hj
    cases h
    obtain ⟨hlt, hp, hbefore⟩ := List.findIdx?_eq_some_iff_getElem.mp hj
    simp only [Bool.and_eq_true, beq_iff_eq] at hp
    refine ⟨enums[i], List.getElem?_eq_getElem hlt, hp.1, hp.2, fun k hk e' he' => ?_⟩
    rw [List.getElem?_eq_getElem (Nat.lt_trans hk hlt)] at he'
    cases he'
    simpa using hbefore k hk
  · cases h

/-- … and a type text spelling an existing enum is never left as a plain string -/
theorem resolveType_complete (enums : List Enum) (ty : Str) (e : Enum) (he : e ∈ enums)
    (hs : e.schema = (typeKey ty).1) (hn : e.name = (typeKey ty).2) : ∃ i, resolveTypePure enums ty = .enum i := by
  unfold resolveTypePure
  split
  · rename_i i _; exact ⟨i, rfl⟩
  · rename_i hnone
    exfalso
    rw [List.findIdx?_eq_none_iff] at hnone
    have := hnone e he
    simp [hs, hn] at this

end C05
end PyDBML
