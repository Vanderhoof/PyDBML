/-
C08, second clause, for `.sql` — whenever parsing returns a database, its SQL rendering evaluates.
`WellLinked db`: every position stored in the content tree is in range; `build_database` only returns such
databases, and the SQL renderer is total on them.
-/
import PyDBMLProofs.Props.C05Link
import PyDBMLProofs.Props.C18
namespace PyDBML
namespace C08
open Lex Build Exc

def ColOK (enums : List Enum) (c : Column) : Prop := ∀ i, c.type = .enum i → i < enums.length

def TableOK (enums : List Enum) (t : Table) : Prop :=
  (∀ c ∈ t.columns, ColOK enums c)
  ∧ ∀ ix ∈ t.indexes, ∀ s ∈ ix.subjects, ∀ i, s = .col i → i < t.columns.length

def RefOK (tables : List Table) (r : Ref) : Prop :=
  ∃ t1 t2, tables[r.t1]? = some t1 ∧ tables[r.t2]? = some t2
    ∧ (∀ i ∈ r.col1, i < t1.columns.length) ∧ (∀ i ∈ r.col2, i < t2.columns.length)

structure WellLinked (db : Db) : Prop where
  tables : ∀ t ∈ db.tables, TableOK db.enums t
  refs : ∀ r ∈ db.refs, RefOK db.tables r
  groups : ∀ g ∈ db.groups, ∀ i ∈ g.items, i < db.tables.length

theorem buildColumn_ok (enums : List Enum) (cb : Bp.ColBp) (c : Column) (h : buildColumn enums cb = .ok c) :
    ColOK enums c := by
  unfold buildColumn at h
  obtain ⟨d, _, h⟩ := bind_ok h
  obtain ⟨ty, hty, h⟩ := bind_ok h
  obtain ⟨n, _, h⟩ := bind_ok h
  cases h
  cases hty
  intro i hi
  obtain ⟨e, he, _⟩ := C05.resolveType_sound _ _ _ hi
  exact (List.getElem?_eq_some_iff.mp he).1

theorem buildIndex_subjects {cols : List Column} {ib : Bp.IdxBp} {ix : Index} (h : buildIndex cols ib = .ok ix) :
    Each (fun s s' => (match s with
        | .expr t => pure (Subject.expr t)
        | .name n => match cols.findIdx? (·.name == n) with
          | some i => pure (Subject.col i)
          | none => throw (.lib "ColumnNotFoundError") : B Subject) = .ok s') ib.subjects ix.subjects := by
  unfold buildIndex at h
  obtain ⟨n, _, h⟩ := bind_ok h
  obtain ⟨ss, hss, h⟩ := bind_ok h
  cases h
  exact mapM_ok hss

theorem buildIndex_ok (cols : List Column) (ib : Bp.IdxBp) (ix : Index) (h : buildIndex cols ib = .ok ix) :
    ∀ s ∈ ix.subjects, ∀ i, s = .col i → i < cols.length := by
  intro s hs i hi
  obtain ⟨sb, _, hsb⟩ := (buildIndex_subjects h).mem hs
  subst hi
  split at hsb
  · cases hsb
  · split at hsb <;> cases hsb
    rename_i hj
    exact (List.findIdx?_eq_some_iff_getElem.mp hj).1

theorem buildTable_ok (enums : List Enum) (tb : Bp.TableBp) (t : Table) (h : buildTable enums tb = .ok t) :
    TableOK enums t := by
  obtain ⟨_, cols, idx, hcols, hidx, rfl⟩ := C06.buildTable_inv h
  refine ⟨fun c hc => ?_, fun ix hix => ?_⟩
  · obtain ⟨cb, _, hcb⟩ := (mapM_ok hcols).mem hc
    exact buildColumn_ok enums cb c hcb
  · obtain ⟨ib, _, hib⟩ := (mapM_ok hidx).mem hix
    exact buildIndex_ok cols ib ix hib

theorem build_wellLinked (ap : Bool) (es : List Bp.Elem) (db : Db)
    (h : buildDatabase ap es = .ok db) : WellLinked db := by
  obtain ⟨_, ⟨_, eT⟩, ⟨_, eG⟩, ⟨_, eR⟩⟩ := C06.buildDatabase_spec ap es db h
  refine ⟨fun t ht => ?_, fun r hr => ?_, fun g hg => ?_⟩
  · obtain ⟨tb, _, htb⟩ := eT.mem ht
    exact buildTable_ok _ _ _ htb
  · obtain ⟨rb, _, hrb⟩ := eR.mem hr
    exact C05.build_refs_in_range _ _ _ hrb
  · obtain ⟨gb, _, hgb⟩ := eG.mem hg
    exact (C06.buildGroup_ok _ _ _ hgb).2.2

theorem sql_colNames_isOk (t : Table) (cols : List Nat) (h : ∀ i ∈ cols, i < t.columns.length) :
    IsOk (Sql.colNames t cols) := by
  unfold Sql.colNames
  exact .bind_pure _ (mapM_getD?_isOk _ _ _ _ h)

theorem sql_typeText_isOk (db : Db) (c : Column) (h : ColOK db.enums c) : IsOk (Sql.typeText db c) := by
  unfold Sql.typeText
  split
  · exact IsOk.pure _
  · rename_i i hi
    exact IsOk.bind_pure _ (getD?_isOk _ _ _ (h i hi))
  · exact IsOk.pure _

theorem sql_renderColumn_isOk (db : Db) (cpk : Bool) (c : Column) (h : ColOK db.enums c) :
    IsOk (Sql.renderColumn db cpk c) := by
  unfold Sql.renderColumn
  exact IsOk.bind_pure _ (sql_typeText_isOk db c h)

theorem sql_renderIndex_isOk (t : Table) (ix : Index)
    (h : ∀ s ∈ ix.subjects, ∀ i, s = .col i → i < t.columns.length) : IsOk (Sql.renderIndex t ix) := by
  unfold Sql.renderIndex
  refine IsOk.bind (IsOk.mapM _ _ ?_) ?_
  · intro s hs
    cases s with
    | col i => exact IsOk.bind_pure _ (getD?_isOk _ _ _ (h _ hs i rfl))
    | expr e => exact IsOk.pure _
    | raw x => exact IsOk.pure _
  · intro r _
    dsimp only
    split <;> exact IsOk.pure _

theorem sql_renderTableWith_isOk (db : Db) (t : Table) (refs : List Str) (h : TableOK db.enums t) :
    IsOk (Sql.renderTableWith db t refs) := by
  unfold Sql.renderTableWith
  refine IsOk.bind ?_ (fun _ _ => IsOk.bind_pure _ (IsOk.mapM _ _ ?_))
  · unfold Sql.createBody
    refine IsOk.bind (IsOk.mapM _ _ ?_) (fun _ _ => IsOk.bind_pure _ (IsOk.mapM _ _ ?_))
    · intro c hc
      exact IsOk.bind_pure _ (sql_renderColumn_isOk db _ c (h.1 c hc))
    · intro ix hix
      exact IsOk.bind_pure _ (sql_renderIndex_isOk t ix (h.2 ix (List.mem_filter.mp hix).1))
  · intro ix hix
    exact IsOk.bind_pure _ (sql_renderIndex_isOk t ix (h.2 ix (List.mem_filter.mp hix).1))

theorem refSides_in_range (tables : List Table) (r : Ref) (h : RefOK tables r) :
    ∃ a b, tables[(Sql.refSides r).1.1]? = some a ∧ tables[(Sql.refSides r).2.1]? = some b
      ∧ (∀ i ∈ (Sql.refSides r).1.2, i < a.columns.length) ∧ (∀ i ∈ (Sql.refSides r).2.2, i < b.columns.length) := by
  obtain ⟨t1, t2, h1, h2, h3, h4⟩ := h
  unfold Sql.refSides
  split
  · exact ⟨t2, t1, h2, h1, h4, h3⟩
  · exact ⟨t1, t2, h1, h2, h3, h4⟩

theorem refSides_bind_isOk (db : Db) (r : Ref) (h : RefOK db.tables r) {β} (k : Table → Table → Str → Str → R β)
    (hk : ∀ a b x y, IsOk (k a b x y)) :
    IsOk (do
      let stT ← getD? db.tables (Sql.refSides r).1.1 "ref table position"
      let rtT ← getD? db.tables (Sql.refSides r).2.1 "ref table position"
      let src ← Sql.colNames stT (Sql.refSides r).1.2
      let dst ← Sql.colNames rtT (Sql.refSides r).2.2
      k stT rtT src dst) := by
  obtain ⟨a, b, ha, hb, hca, hcb⟩ := refSides_in_range _ _ h
  exact .bind_of_eq (getD?_of_some _ _ _ _ ha) (.bind_of_eq (getD?_of_some _ _ _ _ hb)
    (.bind (sql_colNames_isOk _ _ hca) fun _ _ => .bind (sql_colNames_isOk _ _ hcb) fun _ _ => hk _ _ _ _))

theorem sql_renderInlineRef_isOk (db : Db) (r : Ref) (h : RefOK db.tables r) : IsOk (Sql.renderInlineRef db r) :=
  refSides_bind_isOk db r h (fun _ _ _ _ => pure _) fun _ _ _ _ => .pure _

theorem sql_renderManyToMany_isOk (db : Db) (r : Ref) (hl : WellLinked db) (h : RefOK db.tables r) :
    IsOk (Sql.renderManyToMany db r) := by
  obtain ⟨t1, t2, h1, h2, h3, h4⟩ := h
  have ht1 : t1 ∈ db.tables := List.mem_of_getElem? h1
  have ht2 : t2 ∈ db.tables := List.mem_of_getElem? h2
  unfold Sql.renderManyToMany
  refine .bind_of_eq (getD?_of_some _ _ _ _ h1) (.bind_of_eq (getD?_of_some _ _ _ _ h2) ?_)
  dsimp only
  -- the join table's columns copy the types of the referenced columns
  have mkOK : ∀ (t : Table), t ∈ db.tables → ∀ (cols : List Nat), (∀ i ∈ cols, i < t.columns.length) →
      ∀ res, cols.mapM (fun i => do
        let c ← getD? t.columns i "reference column position"
        pure ({ name := t.name ++ '_' :: c.name, type := c.type, notNull := true, pk := true } : Column)) = .ok res →
      ∀ c ∈ res, ColOK db.enums c := by
    intro t ht cols hc res hres c hcr
    obtain ⟨i, _, hic⟩ := (mapM_ok hres).mem hcr
    obtain ⟨col, hg, hic⟩ := bind_ok hic
    cases hic
    exact (hl.tables t ht).1 col (getD?_mem hg)
  refine IsOk.bind (mapM_getD?_isOk _ _ _ _ h3) fun jc1 hjc1 =>
    IsOk.bind (mapM_getD?_isOk _ _ _ _ h4) fun jc2 hjc2 => ?_
  refine IsOk.bind (sql_renderTableWith_isOk db _ [] ⟨?_, ?_⟩) ?_
  · intro c hc
    rcases List.mem_append.mp hc with hc | hc
    · exact mkOK t1 ht1 _ h3 _ hjc1 c hc
    · exact mkOK t2 ht2 _ h4 _ hjc2 c hc
  · intro ix hix; simp at hix
  intro _ _
  exact IsOk.bind (sql_colNames_isOk _ _ h3) (fun _ _ => IsOk.bind_pure _ (sql_colNames_isOk _ _ h4))

theorem sql_renderTable_isOk (db : Db) (hl : WellLinked db) (ti : Nat) (hti : ti < db.tables.length) :
    IsOk (Sql.renderTable db ti) := by
  unfold Sql.renderTable
  refine IsOk.bind (getD?_isOk _ _ _ hti) ?_
  intro t ht
  refine IsOk.bind (IsOk.mapM _ _ ?_) (fun _ _ => sql_renderTableWith_isOk db t _ (hl.tables t (getD?_mem ht)))
  intro r hr
  unfold Sql.inlineRefsFor at hr
  split at hr
  · simp at hr
  · exact sql_renderInlineRef_isOk db r (hl.refs r (List.mem_filter.mp hr).1)

theorem sql_total (db : Db) (hl : WellLinked db) : IsOk (Sql.renderDb db) := by
  unfold Sql.renderDb
  refine IsOk.bind (IsOk.mapM _ _ ?_) (fun _ _ => IsOk.bind_pure _ (IsOk.mapM _ _ ?_))
  · intro ti hti
    -- the script goes through the tables in the order of C18, which is a permutation of their positions
    exact sql_renderTable_isOk db hl ti (List.mem_range.mp ((C18.perm db.tables db.refs).subset hti))
  · intro r hr
    have hrm := (List.mem_filter.mp hr).1
    unfold Sql.renderRefTop
    split
    · exact sql_renderManyToMany_isOk db r hl (hl.refs r hrm)
    · split
      · exact sql_renderInlineRef_isOk db r (hl.refs r hrm)
      · exact refSides_bind_isOk db r (hl.refs r hrm) (fun _ _ _ _ => pure _) fun _ _ _ _ => .pure _

theorem parse_ok {ap : Bool} {text : Str} {db : Db} (h : Build.parse ap text = .ok db) :
    ∃ es c, Grammar.parseDoc ap (removeBom text) = .ok es c ∧ buildDatabase ap es = .ok db := by
  unfold Build.parse at h
  split at h
  · rename_i es c hp
    split at h <;> cases h
    exact ⟨es, c, hp, ‹_›⟩
  all_goals cases h

/-- **C08, `.sql` of a parsed database, for any input text**: it evaluates (no exception of any class). -/
theorem parsed_sql_total (ap : Bool) (text : Str) (db : Db) (h : Build.parse ap text = .ok db) :
    ∃ s, Sql.renderDb db = .ok s := by
  obtain ⟨es, c, _, hb⟩ := parse_ok h
  exact sql_total db (build_wellLinked _ _ _ hb)

end C08
end PyDBML
