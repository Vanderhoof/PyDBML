/-
C15 — "with the option off, the same syntax is a syntax error": for ANY input text parsed with
`allow_properties = False`, no table blueprint and no column blueprint carries a property.  (That the built
database then holds none either is not stated: `Build` copies `props.getD []`.)
-/
import PyDBMLProofs.Props.C06Grammar
namespace PyDBML
namespace C15
open Lex Grammar Hoare Bp

def NoPropSetting (s : ColSetting) : Prop := ∀ k v, s ≠ .prop k v

theorem post_const {α : Type} (p : P α) (s : ColSetting) (h : NoPropSetting s) :
    Post (p >>= fun _ => pure s) NoPropSetting := post_bind' (fun _ => post_pure _ h)

theorem post_columnSetting : Post columnSetting NoPropSetting := by
  unfold columnSetting
  refine post_bind' (fun _ => post_bind (R := NoPropSetting) ?_ (fun r hr => post_bind' (fun _ => post_pure r hr)))
  refine post_alt (post_const _ _ (by intro k v h; cases h)) ?_
  refine post_alt (post_const _ _ (by intro k v h; cases h)) ?_
  refine post_alt (post_const _ _ (by intro k v h; cases h)) ?_
  refine post_alt (post_const _ _ (by intro k v h; cases h)) ?_
  refine post_alt (post_const _ _ (by intro k v h; cases h)) ?_
  refine post_alt (post_const _ _ (by intro k v h; cases h)) ?_
  refine post_alt (post_bind' (fun t => post_pure _ (by intro k v h; cases h))) ?_
  refine post_alt (post_bind' (fun t => post_pure _ (by intro k v h; cases h))) ?_
  exact post_bind' (fun t => post_pure _ (by intro k v h; cases h))

theorem foldColSettings_props (all : List ColSetting) (cm : Option Str) (h : ∀ s ∈ all, NoPropSetting s) :
    (foldColSettings all cm).props = none := by
  unfold foldColSettings
  simp only
  split
  · rfl
  · rename_i hne
    exfalso
    apply hne
    rw [List.isEmpty_iff, List.filterMap_eq_nil_iff]
    intro s hs
    have := h s hs
    cases s <;> first | rfl | exact absurd rfl (this _ _)

theorem post_columnSettings : Post columnSettings (fun s => s.props = none) := by
  unfold columnSettings
  refine post_bind' (fun _ => post_cut (post_bind post_columnSetting (fun s hs =>
    post_bind (post_manyF (post_bind' (fun _ => post_columnSetting))) (fun ss hss =>
      post_bind' (fun _ => post_bind' (fun cm => post_pure _ ?_))))))
  apply foldColSettings_props
  intro x hx
  rcases List.mem_cons.mp hx with rfl | hx
  · exact hs
  · exact hss x hx

theorem post_tableColumn_off : Post (tableColumn false) (fun c => c.props = none) := by
  unfold tableColumn
  refine post_bind' (fun before => post_bind' (fun nm => post_bind' (fun ty => post_bind' (fun cons =>
    post_bind' (fun cm => post_bind (post_opt post_columnSettings) (fun st hst => post_bind' (fun _ =>
      post_pure _ ?_)))))))
  simp only
  cases st with
  | none => rfl
  | some s => exact hst s rfl

def TblElemOff (e : TblElem) : Prop :=
  (∀ k v, e ≠ .prop k v) ∧ ∀ c, e = .column c → c.props = none

theorem post_tableElement_off : Post (tableElement false) TblElemOff := by
  unfold tableElement
  refine post_bind' (fun _ => post_bind (R := TblElemOff) ?_ (fun r hr => post_bind' (fun _ => post_pure r hr)))
  refine post_alt (post_bind post_tableColumn_off (fun c hc => post_pure _ ⟨(by intro k v h; cases h), (by intro c' h; cases h; exact hc)⟩)) ?_
  refine post_alt (post_bind' (fun t => post_pure _ ⟨(by intro k v h; cases h), (by intro c' h; cases h)⟩)) ?_
  refine post_alt (post_bind' (fun t => post_pure _ ⟨(by intro k v h; cases h), (by intro c' h; cases h)⟩)) ?_
  exact post_pfail

theorem post_tableRule_off :
    Post (tableRule false) fun tb => tb.props = none ∧ ∀ c ∈ tb.columns, c.props = none := by
  refine post_weaken (C06.post_tableRule_body false post_tableElement_off) ?_
  rintro tb ⟨_, els, hels, hcols, _, hprops⟩
  refine ⟨?_, fun c hc => ?_⟩
  · rw [hprops, if_pos]
    rw [List.isEmpty_iff, List.filterMap_eq_nil_iff]
    intro e he
    have := (hels e he).1
    cases e <;> first | rfl | exact absurd rfl (this _ _)
  · obtain ⟨e, he, hec⟩ := List.mem_filterMap.mp (hcols ▸ hc)
    cases e <;> simp at hec
    subst hec
    exact (hels _ he).2 _ rfl

/-- **C15, for any text**: with the option off `key: 'value'` is never read as a property, of a table or a column -/
theorem parseDoc_no_props_when_off (text : Str) (es : List Elem) (c : Cur)
    (h : parseDoc false text = .ok es c) :
    ∀ tb, Elem.table tb ∈ es → tb.props = none ∧ ∀ col ∈ tb.columns, col.props = none :=
  C06.post_document_tables false post_tableRule_off _ _ _ h

end C15
end PyDBML
