/-
C02/C01 — the primitives of the lexical layer as `Run` / `Fails` facts.  They are stated on `At (List.replicate k ' ' ++ x :: r)`
with `k` explicit: unifying it with the state the previous step ended in yields the text `r` that is left.  `AtWs s`
(C02Base.lean) is all a statement knows that speaks of `(skipWs c).rest`; `.pre (AtWs.of_at k hw)` leads from it to `At`.
`EndOK a`: nothing between elements starts at `a`, so `_` and `_c` stay.
-/
import PyDBMLProofs.Run
import PyDBMLProofs.Props.C02Base
namespace PyDBML
namespace C02
open Lex Grammar Build

def EndOK (e : Str) : Prop :=
  ∃ k x r, e = List.replicate k ' ' ++ x :: r ∧ isWs x = false ∧ x ≠ '\n' ∧ x ≠ '/'

theorem endOK_at (k : Nat) (x : Char) (r : Str) (hx : isWs x = false ∧ x ≠ '\n' ∧ x ≠ '/') :
    EndOK (List.replicate k ' ' ++ x :: r) := ⟨k, x, r, rfl, hx⟩

theorem endOK_brace (tail : Str) : EndOK ('}' :: tail) := endOK_at 0 '}' tail (by decide)

theorem Quiet.of_endOK {a : Str} {e : Bool} (h : EndOK a) (c : Cur) (hc : AtE a e c) : Quiet c := by
  obtain ⟨k, x, r, rfl, hw, h1, h2⟩ := h
  exact .of_ws h1 h2 (AtWs.of_at k hw c hc)

theorem stay_skipNl {a : Str} {e : Bool} (h : EndOK a) : Run skipNl () (AtE a e) (AtE a e) :=
  .same fun c hc => skipNl_stays c (.of_endOK h c hc)

theorem stay_cBefore {a : Str} {e : Bool} (h : EndOK a) : Run cBefore [] (AtE a e) (AtE a e) :=
  .same fun c hc => cBefore_stays c (.of_endOK h c hc)

theorem stay_skipNl_ws {x : Char} {r : Str} (h1 : x ≠ '\n') (h2 : x ≠ '/') : Run skipNl () (AtWs (x :: r)) (AtWs (x :: r)) :=
  .same fun c hc => skipNl_stays c (.of_ws h1 h2 hc)

theorem run_skipNl_nl (k : Nat) {a : Str} (h : EndOK a) :
    Run skipNl () (At (List.replicate k ' ' ++ '\n' :: a)) (At a) := fun c hc =>
  skipNl_one c a (skipWs_rest_spaces c k '\n' a hc.1 (by decide)) hc.2 (fun d hd _ => Quiet.of_endOK h d (e := d.pastEnd) ⟨hd, rfl⟩)

/-- an item line of a block begins with blanks, so the line break before it is `_c`'s -/
theorem run_cBefore_nl {a : Str} (h : EndOK a) : Run cBefore [] (At ('\n' :: a)) (At a) := fun c hc =>
  let ⟨c0, hb, hr, hp, _⟩ := cBefore_nl c a hc.1 hc.2 (fun d hd _ => Quiet.of_endOK h d (e := d.pastEnd) ⟨hd, rfl⟩)
  ⟨c0, hb, hr, hp⟩

theorem fails_comment {e : Bool} (k : Nat) (x : Char) (r : Str) (hw : isWs x = false) (hx : x ≠ '/') :
    Fails comment (AtE (List.replicate k ' ' ++ x :: r) e) :=
  comment_fails.pre fun c hc => .of_ws (by simp [hx]) (AtWs.of_at k hw c hc)

theorem run_sym_ws {s : String} {ch : Char} (hs : s.toList = [ch]) (r : Str) : Run (sym s) () (AtWs (ch :: r)) (At r) :=
  fun c hc => sym_ok s ch hs c r hc.1 hc.2

theorem run_sym {s : String} {ch : Char} (hs : s.toList = [ch]) (hw : isWs ch = false) (k : Nat) (r : Str) :
    Run (sym s) () (At (List.replicate k ' ' ++ ch :: r)) (At r) := (run_sym_ws hs r).pre (AtWs.of_at k hw)

theorem fails_sym {s : String} {ch : Char} (hs : s.toList = [ch]) {e : Bool} (k : Nat) (x : Char) (r : Str) (hw : isWs x = false)
    (hx : x ≠ ch) : Fails (sym s) (AtE (List.replicate k ' ' ++ x :: r) e) :=
  (sym_fails hs).pre fun c hc => .of_ws (by simp [startsWith, Ne.symm hx]) (AtWs.of_at k hw c hc)

theorem run_lbrace (k : Nat) (r : Str) : Run (sym "{") () (At (List.replicate k ' ' ++ '{' :: r)) (At r) :=
  run_sym toList_lbrace (by decide) k r

theorem run_rbrace (k : Nat) (r : Str) : Run (sym "}") () (At (List.replicate k ' ' ++ '}' :: r)) (At r) :=
  run_sym toList_rbrace (by decide) k r

/-- here and below `x :: pre` is the spelling of the keyword in the text -/
theorem run_clit {s : String} {kw : Str} (hs : s.toList = kw) (k : Nat) (x : Char) (pre r : Str) (hw : isWs x = false)
    (hl : (x :: pre).length = kw.length) (hm : startsWithCaseless (x :: pre) kw = true) :
    Run (clit s) () (At (List.replicate k ' ' ++ x :: (pre ++ r))) (At r) := fun c hc =>
  clit_ok s c (x :: pre) r (skipWs_rest_spaces c k x (pre ++ r) hc.1 hw) (hs ▸ hl)
    (hs ▸ startsWithCaseless_append _ r _ hm) hc.2

theorem run_clit_ws {s : String} {kw : Str} (hs : s.toList = kw) (r : Str) : Run (clit s) () (AtWs (kw ++ r)) (At r) :=
  fun c hc => clit_ok s c kw r hc.1 (by rw [hs]) (hs ▸ swc_self kw r) hc.2

theorem run_ckw_ws {s : String} {kw : Str} (hs : s.toList = kw) (x : Char) (pre : Str) (y : Char) (r : Str)
    (hl : (x :: pre).length = kw.length) (hm : startsWithCaseless (x :: pre) kw = true) (hy : isKwIdent y = false) :
    Run (ckw s) () (fun c => AtWs (x :: (pre ++ y :: r)) c ∧ ∀ p, (skipWs c).prev = some p → isKwIdent p = false)
      (At (y :: r)) := fun c hc =>
  ckw_ok' s c (x :: pre) (y :: r) hc.1.1 (hs ▸ hl) (hs ▸ startsWithCaseless_append _ _ _ hm) hc.1.2 hc.2
    (by intro z hz; cases hz; exact hy)

theorem run_ckw {s : String} {kw : Str} (hs : s.toList = kw) (x : Char) (pre : Str) (y : Char) (r : Str) (hw : isWs x = false)
    (hl : (x :: pre).length = kw.length) (hm : startsWithCaseless (x :: pre) kw = true) (hy : isKwIdent y = false) :
    Run (ckw s) () (AtWord (x :: (pre ++ y :: r))) (At (y :: r)) :=
  (run_ckw_ws hs x pre y r hl hm hy).pre fun c hc =>
    ⟨AtWs.of_at 0 hw c hc.1, by rw [skipWs_prev_head c x _ hc.1.1 hw]; exact hc.2⟩

/-- after blanks, whatever stood before them does not matter -/
theorem run_ckw_sp {s : String} {kw : Str} (hs : s.toList = kw) (k : Nat) (x : Char) (pre : Str) (y : Char) (r : Str)
    (hw : isWs x = false) (hl : (x :: pre).length = kw.length) (hm : startsWithCaseless (x :: pre) kw = true)
    (hy : isKwIdent y = false) :
    Run (ckw s) () (At (List.replicate (k + 1) ' ' ++ x :: (pre ++ y :: r))) (At (y :: r)) :=
  (run_ckw_ws hs x pre y r hl hm hy).pre fun c hc => ⟨AtWs.of_at (k + 1) hw c hc, fun p hp => by
    have : (skipWs c).prev = some ' ' := by unfold skipWs; rw [hc.1]; exact skipWsList_spaces_prev _ k x _ hw
    rw [this] at hp; cases hp; decide⟩

theorem fails_clit_ws {s : String} {kw : Str} (hs : s.toList = kw) {x : Char} {r : Str}
    (hm : startsWithCaseless (x :: r) kw = false) : Fails (clit s) (AtWs (x :: r)) := (clit_fails hs).pre fun _ => .of_ws hm

theorem fails_clit {s : String} {kw : Str} (hs : s.toList = kw) {e : Bool} (k : Nat) (x : Char) (r : Str) (hw : isWs x = false)
    (hm : startsWithCaseless (x :: r) kw = false) : Fails (clit s) (AtE (List.replicate k ' ' ++ x :: r) e) :=
  (clit_fails hs).pre fun c hc => .of_ws hm (AtWs.of_at k hw c hc)

theorem fails_ckw {s : String} {kw : Str} (hs : s.toList = kw) {e : Bool} (k : Nat) (x : Char) (r : Str) (hw : isWs x = false)
    (hm : startsWithCaseless (x :: r) kw = false) : Fails (ckw s) (AtE (List.replicate k ' ' ++ x :: r) e) :=
  (ckw_fails hs).pre fun c hc => .of_ws hm (AtWs.of_at k hw c hc)

theorem fails_clit_head {s : String} {y : Char} {ys : Str} (hs : s.toList = y :: ys) {e : Bool} (k : Nat) (x : Char) (r : Str)
    (hw : isWs x = false) (hx : (pyUpper1 y == pyUpper1 x) = false) :
    Fails (clit s) (AtE (List.replicate k ' ' ++ x :: r) e) :=
  (clit_fails hs).pre fun c hc => .of_ws (by simp [startsWithCaseless, hx]) (AtWs.of_at k hw c hc)

theorem fails_ckw_head {s : String} {y : Char} {ys : Str} (hs : s.toList = y :: ys) {e : Bool} (k : Nat) (x : Char) (r : Str)
    (hw : isWs x = false) (hx : (pyUpper1 y == pyUpper1 x) = false) :
    Fails (ckw s) (AtE (List.replicate k ' ' ++ x :: r) e) :=
  (ckw_fails hs).pre fun c hc => .of_ws (by simp [startsWithCaseless, hx]) (AtWs.of_at k hw c hc)

/-- alternatives `(word, rule)` whose words clash pairwise: on a text that begins with one of the words, its rule decides -/
theorem run_firstWord {α : Type} {rules pre post : List (String × P α)} {e : String × P α} (hs : rules = pre ++ e :: post)
    (hcl : (rules.map (·.1.toList)).Pairwise (Clash · · = true))
    (hrf : ∀ d ∈ rules, ∀ A, Fails (clit d.1) A → Fails d.2 A)
    {x : Char} {w : Str} (hw : e.1.toList = x :: w) (tail : Str) {v : α} {B : Cur → Prop}
    (he : Run e.2 v (AtWs (x :: (w ++ tail))) B) : Run (firstOf (rules.map (·.2))) v (AtWs (x :: (w ++ tail))) B := by
  subst hs
  rw [List.map_append, List.map_cons]
  refine .first (fun q hq => ?_) he
  obtain ⟨d, hd, rfl⟩ := List.mem_map.mp hq
  refine hrf d (by simp [hd]) _ (fails_clit_ws rfl (swc_clash (x :: w) _ tail ?_))
  rw [List.map_append, List.map_cons, List.pairwise_append] at hcl
  rw [clash_comm, ← hw]
  exact hcl.2.2 _ (List.mem_map_of_mem hd) _ (by simp)

theorem run_nameQ (k : Nat) (n r : Str) (h : NameOK n) :
    Run name n (At (List.replicate k ' ' ++ '"' :: (n ++ '"' :: r))) (At r) := fun c hc =>
  name_quoted_ok c n r (skipWs_rest_spaces c k '"' _ hc.1 (by decide)) h hc.2

theorem run_name_ws (x : Char) (nm r : Str) (hall : (x :: nm).all isNameChar = true)
    (hstop : ∀ y, r.head? = some y → isNameChar y = false) : Run name (x :: nm) (AtWs (x :: (nm ++ r))) (At r) := fun c hc =>
  name_ok c (x :: nm) r hc.1 (by simp) hall hstop hc.2

theorem run_nameQ_ws (n r : Str) (h : NameOK n) : Run name n (AtWs ('"' :: (n ++ '"' :: r))) (At r) := fun c hc =>
  name_quoted_ok c n r hc.1 h hc.2

theorem run_name (k : Nat) (x : Char) (nm r : Str) (hall : (x :: nm).all isNameChar = true)
    (hstop : ∀ y, r.head? = some y → isNameChar y = false) :
    Run name (x :: nm) (At (List.replicate k ' ' ++ x :: (nm ++ r))) (At r) :=
  (run_name_ws x nm r hall hstop).pre
    (AtWs.of_at k (nameChar_facts x (by simp only [List.all_cons, Bool.and_eq_true] at hall; exact hall.1)).1)

theorem fails_name {e : Bool} (k : Nat) (x : Char) (r : Str) (hw : isWs x = false) (h1 : isNameChar x = false) (h2 : x ≠ '"') :
    Fails name (AtE (List.replicate k ' ' ++ x :: r) e) := (name_fails h1 h2).pre (AtWs.of_at k hw)

theorem run_string (k : Nat) (t r : Str) (h1 : C13.oneLine t = true) (h3 : hasTriple t = false)
    (hr : t ≠ [] ∨ r.head? ≠ some '\'') :
    Run stringLiteral t (At (List.replicate k ' ' ++ '\'' :: (prepareTextForDbml t ++ '\'' :: r))) (At r) := fun c hc =>
  stringLiteral_ok c t r (skipWs_rest_spaces c k '\'' _ hc.1 (by decide)) hc.2 h1 h3 hr

theorem fails_stringLiteral (k : Nat) (x : Char) (r : Str) (hw : isWs x = false) (h1 : x ≠ '\'') (h2 : x ≠ '"') :
    Fails stringLiteral (At (List.replicate k ' ' ++ x :: r)) := fun c hc => by
  unfold stringLiteral
  simp only [skipWs_pastEnd, hc.2, Bool.false_eq_true, ↓reduceIte, skipWs_rest_spaces c k x r hc.1 hw]
  split
  · rename_i heq; exact absurd (List.cons.inj heq).1 h1
  · rename_i heq; exact absurd (List.cons.inj heq).1 h2
  · rfl

theorem run_noteRule_ws (t r : Str) (ht : Plain t) (h3 : hasTriple t = false) (hr : t ≠ [] ∨ r.head? ≠ some '\'') :
    Run noteRule t (AtWs ('n' :: 'o' :: 't' :: 'e' :: ':' :: ' ' :: '\'' :: (prepareTextForDbml t ++ '\'' :: r))) (At r) :=
  .bind (run_clit_ws toList_noteC _) (.cut (.bind (stay_skipNl (endOK_at 1 '\'' _ (by decide)))
    (run_string 1 t r (oneLine_of_plain t ht) h3 hr)))

theorem run_expressionLiteral (k : Nat) (e r : Str) (hq : ∀ ch ∈ e, ch ≠ '`') :
    Run expressionLiteral e (At (List.replicate k ' ' ++ '`' :: (e ++ '`' :: r))) (At r) := fun c hc => by
  have hn : (skipWs c).rest = '`' :: (e ++ '`' :: r) := skipWs_rest_spaces c k '`' _ hc.1 (by decide)
  refine ⟨curAfter (skipWs c) r, ?_, C13.curAfter_rest (skipWs c) ('`' :: e ++ ['`']) r (by rw [hn]; simp), ?_⟩
  · unfold expressionLiteral
    have htw : (e ++ '`' :: r).takeWhile (fun x => decide (x ≠ '`')) = e :=
      takeWhile_append_stop _ e ('`' :: r) (by simpa using hq) (by intro y hy; simp at hy; subst hy; simp)
    simp only [skipWs_pastEnd, hc.2, Bool.false_eq_true, ↓reduceIte, hn, htw, List.drop_left']
  · rw [C13.curAfter_pastEnd]; exact hc.2

theorem fails_expressionLiteral (k : Nat) (x : Char) (r : Str) (hw : isWs x = false) (h : x ≠ '`') :
    Fails expressionLiteral (At (List.replicate k ' ' ++ x :: r)) := fun c hc => by
  unfold expressionLiteral
  simp only [skipWs_pastEnd, hc.2, Bool.false_eq_true, ↓reduceIte, skipWs_rest_spaces c k x r hc.1 hw]
  split
  · rename_i heq; exact absurd (List.cons.inj heq).1 h
  · rfl

theorem run_numberLiteral (k : Nat) (d : Char) (ds : Str) (x : Char) (r : Str) (hall : (d :: ds).all isDigit = true)
    (hx : isDigit x = false) (hdot : x ≠ '.') :
    Run numberLiteral (d :: ds) (At (List.replicate k ' ' ++ d :: (ds ++ x :: r))) (At (x :: r)) := fun c hc => by
  have hd : isDigit d = true := by simp only [List.all_cons, Bool.and_eq_true] at hall; exact hall.1
  have hn : (skipWs c).rest = (d :: ds) ++ x :: r :=
    skipWs_rest_spaces c k d _ hc.1 (nameChar_facts d (by simp [isNameChar, isAlnum, hd])).1
  have htw : ((d :: ds) ++ x :: r).takeWhile isDigit = d :: ds :=
    takeWhile_append_stop isDigit (d :: ds) (x :: r) hall (by intro y hy; cases hy; exact hx)
  refine ⟨advance (skipWs c) (d :: ds).length, ?_, by rw [C13.advance_rest, hn]; simp, by rw [C13.advance_pastEnd]; exact hc.2⟩
  unfold numberLiteral
  simp only [skipWs_pastEnd, hc.2, Bool.false_eq_true, ↓reduceIte, hn, htw, List.isEmpty_cons, List.drop_left']
  split
  · rename_i heq; exact absurd (List.cons.inj heq).1 hdot
  · rfl

theorem at_skipWs (k : Nat) {x : Char} {r : Str} {e : Bool} (hw : isWs x = false) (c : Cur)
    (h : AtE (List.replicate k ' ' ++ x :: r) e c) : AtE (x :: r) e (skipWs c) := ⟨skipWs_rest_spaces c k x r h.1 hw, h.2⟩

theorem nameRaw_eq {c : Cur} {x : Char} {r : Str} (hc : c.rest = x :: r) (hw : isWs x = false) : nameRaw c = name c := by
  unfold nameRaw; rw [hc]; simp only [hw, Bool.false_eq_true, ↓reduceIte]

theorem run_nameRaw {v : Str} {x : Char} {r : Str} {B : Cur → Prop} (hw : isWs x = false)
    (h : Run name v (At (List.replicate 0 ' ' ++ x :: r)) B) : Run nameRaw v (At (x :: r)) B :=
  fun c hc => nameRaw_eq hc.1 hw ▸ h c hc

theorem fails_nameRaw {x : Char} {r : Str} {e : Bool} (hw : isWs x = false)
    (h : Fails name (AtE (List.replicate 0 ' ' ++ x :: r) e)) : Fails nameRaw (AtE (x :: r) e) :=
  fun c hc => nameRaw_eq hc.1 hw ▸ h c hc

theorem fails_litRaw {s a : Str} {e : Bool} (h : startsWith a s = false) : Fails (litRaw s) (AtE a e) := fun c hc => by
  unfold litRaw; simp [hc.1, h]

theorem fails_typeArgs {x : Char} {r : Str} {e : Bool} (hx : x ≠ '(') : Fails typeArgs (AtE (x :: r) e) := fun c hc => by
  unfold typeArgs
  rw [fails_litRaw (by simp [startsWith, Ne.symm hx]) c hc]

section
variable {ap : Bool} {bs : List Str} {A B : Cur → Prop}

theorem fails_tableRule (hb : Run cBefore bs A B) (hk : Fails (ckw "table") B) : Fails (tableRule ap) A :=
  .bind_after hb (.bind hk)

theorem fails_refRule (hb : Run cBefore bs A B) (hk : Fails (clit "ref") B) : Fails refRule A :=
  .alt (.bind_after hb (.bind hk)) (.bind_after hb (.bind hk))

theorem fails_enumRule (hb : Run cBefore bs A B) (hk : Fails (clit "enum") B) : Fails enumRule A :=
  .bind_after hb (.bind hk)

theorem fails_tableGroupRule (hb : Run cBefore bs A B) (hk : Fails (clit "TableGroup") B) : Fails tableGroupRule A :=
  .bind_after hb (.bind hk)

theorem fails_projectRule (hb : Run cBefore bs A B) (hk : Fails (clit "project") B) : Fails projectRule A :=
  .bind_after hb (.bind hk)

theorem fails_stickyNoteRule (hb : Run cBefore bs A B) (hk : Fails (clit "note") B) : Fails stickyNoteRule A :=
  .bind_after hb (.bind hk)

theorem fails_element (hb : Run cBefore bs A B) (h1 : Fails (ckw "table") B) (h2 : Fails (clit "ref") B)
    (h3 : Fails (clit "enum") B) (h4 : Fails (clit "TableGroup") B) (h5 : Fails (clit "project") B)
    (h6 : Fails (clit "note") B) : Fails (element ap) A :=
  .alt (.bind (fails_tableRule hb h1)) (.alt (.bind (fails_refRule hb h2)) (.alt (.bind (fails_enumRule hb h3))
    (.alt (.bind (fails_tableGroupRule hb h4)) (.alt (.bind (fails_projectRule hb h5)) (.bind (fails_stickyNoteRule hb h6))))))

theorem fails_element_atEnd (hb : Run cBefore bs A AtEnd) : Fails (element ap) A :=
  fails_element hb ((ckw_fails toList_table).pre fun _ => .of_end rfl) ((clit_fails toList_ref).pre fun _ => .of_end rfl)
    ((clit_fails toList_enum).pre fun _ => .of_end rfl) ((clit_fails toList_group).pre fun _ => .of_end rfl)
    ((clit_fails toList_project).pre fun _ => .of_end rfl) ((clit_fails toList_note).pre fun _ => .of_end rfl)

variable {Q : Cur → Prop}

theorem run_element_table {v : Bp.TableBp} (h : Run (tableRule ap) v A Q) : Run (element ap) (.table v) A Q :=
  .alt_left (.bind h .pure)

theorem run_element_ref {v : Bp.RefBp} (h1 : Fails (tableRule ap) A) (h : Run refRule v A Q) :
    Run (element ap) (.ref v) A Q := .alt_right (.bind h1) (.alt_left (.bind h .pure))

theorem run_element_enum {v : Bp.EnumBp} (h1 : Fails (tableRule ap) A) (h2 : Fails refRule A) (h : Run enumRule v A Q) :
    Run (element ap) (.enum v) A Q := .alt_right (.bind h1) (.alt_right (.bind h2) (.alt_left (.bind h .pure)))

theorem run_element_group {v : Bp.GroupBp} (h1 : Fails (tableRule ap) A) (h2 : Fails refRule A) (h3 : Fails enumRule A)
    (h : Run tableGroupRule v A Q) : Run (element ap) (.group v) A Q :=
  .alt_right (.bind h1) (.alt_right (.bind h2) (.alt_right (.bind h3) (.alt_left (.bind h .pure))))

theorem run_element_project {v : Bp.ProjectBp} (h1 : Fails (tableRule ap) A) (h2 : Fails refRule A) (h3 : Fails enumRule A)
    (h4 : Fails tableGroupRule A) (h : Run projectRule v A Q) : Run (element ap) (.project v) A Q :=
  .alt_right (.bind h1) (.alt_right (.bind h2) (.alt_right (.bind h3) (.alt_right (.bind h4) (.alt_left (.bind h .pure)))))

theorem run_element_sticky {v : Bp.StickyBp} (h1 : Fails (tableRule ap) A) (h2 : Fails refRule A) (h3 : Fails enumRule A)
    (h4 : Fails tableGroupRule A) (h5 : Fails projectRule A) (h : Run stickyNoteRule v A Q) :
    Run (element ap) (.sticky v) A Q :=
  .alt_right (.bind h1) (.alt_right (.bind h2) (.alt_right (.bind h3) (.alt_right (.bind h4) (.alt_right (.bind h5) (.bind h .pure)))))

end

end C02
end PyDBML
