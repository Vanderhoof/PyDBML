/-
C14 — comments: every rendered comment line carries the marker, so comment text can never become
part of a statement (lines being LF-separated, as the code defines them).

`splitNL` and `joinNL` are inverse to each other between texts and non-empty lists of LF-free lines.
-/
import PyDBMLModel
import PyDBMLProofs.Lit
import PyDBMLProofs.Join
namespace PyDBML
namespace C14

theorem splitNL_ne_nil (s : Str) : splitNL s ≠ [] := by
  fun_induction splitNL s <;> simp

theorem splitNL_append_nl (s r : Str) : splitNL (s ++ '\n' :: r) = splitNL s ++ splitNL r := by
  fun_induction splitNL s with
  | case1 => simp [splitNL]
  | case2 s ih => simp [splitNL, ih]
  | case3 c s hc h ih => exact absurd h (splitNL_ne_nil s)
  -- a character other than LF joins the first line of what follows it, on both sides
  | case4 c s hc l ls h ih => simp [splitNL, hc, ih, h]

theorem splitNL_no_nl_self (l : Str) (h : '\n' ∉ l) : splitNL l = [l] := by
  induction l with
  | nil => rfl
  | cons c r ih =>
    simp only [List.mem_cons, not_or] at h
    simp [splitNL, Ne.symm h.1, ih h.2]

theorem splitNL_line_nl (l rest : Str) (h : '\n' ∉ l) : splitNL (l ++ '\n' :: rest) = l :: splitNL rest := by
  rw [splitNL_append_nl, splitNL_no_nl_self l h]; rfl

theorem splitNL_no_nl (s : Str) : ∀ l ∈ splitNL s, '\n' ∉ l := by
  fun_induction splitNL s with
  | case1 => simp
  | case2 r ih => simpa using ih
  | case3 c r hc h ih => exact absurd h (splitNL_ne_nil r)
  | case4 c r hc l ls h ih =>
    rw [h, List.forall_mem_cons] at ih
    rw [List.forall_mem_cons]
    exact ⟨fun hm => (List.mem_cons.mp hm).elim (Ne.symm hc) ih.1, ih.2⟩

theorem splitNL_joinNL (ls : List Str) (hne : ls ≠ []) (h : ∀ l ∈ ls, '\n' ∉ l) :
    splitNL (joinNL ls) = ls := by
  obtain ⟨a, M, rfl⟩ := List.exists_cons_of_ne_nil hne
  rw [joinNL_eq_flatMap]
  induction M generalizing a with
  | nil => simpa using splitNL_no_nl_self a (h a (by simp))
  | cons b M ih =>
    rw [List.flatMap_cons, List.cons_append, splitNL_line_nl a _ (h a (by simp)),
      ih b (by simp) (fun l hl => h l (List.mem_cons_of_mem a hl))]

theorem joinNL_splitNL (s : Str) : joinNL (splitNL s) = s := by
  fun_induction splitNL s with
  | case1 => rfl
  | case2 r ih =>
    obtain ⟨l, ls, h⟩ := List.exists_cons_of_ne_nil (splitNL_ne_nil r)
    rw [h, joinNL_eq_flatMap] at ih
    rw [h, joinNL_eq_flatMap, ← ih]
    rfl
  | case3 c r hc h ih => exact absurd h (splitNL_ne_nil r)
  | case4 c r hc l ls h ih => rw [h] at ih; rw [joinNL_eq_flatMap] at ih ⊢; simp [← ih]

/-- the lines of a rendered comment (`tools.comment(val, comb)`) are the lines of the comment text, each prefixed
    with the marker and a blank, then the terminating line break: no line of user text goes without the marker -/
theorem comment_lines_prefixed (comb val : Str) (hc : '\n' ∉ comb) :
    splitNL (commentLines comb val) = (splitNL val).map (fun l => comb ++ ' ' :: l) ++ [[]] := by
  unfold commentLines
  rw [splitNL_append_nl, splitNL_joinNL]
  · rfl
  · simp [splitNL_ne_nil]
  · intro l hl
    obtain ⟨x, hx, rfl⟩ := List.mem_map.mp hl
    simp [hc, splitNL_no_nl val x hx]

theorem comment_ends_with_newline (comb val : Str) :
    ∃ body, commentLines comb val = body ++ ['\n'] := ⟨_, rfl⟩

example : commentLines (lit "--") (lit "a'; DROP TABLE t;\nb") = lit "-- a'; DROP TABLE t;\n-- b\n" := by
  repeat rw [lit_eq rfl]
  decide

end C14
end PyDBML
