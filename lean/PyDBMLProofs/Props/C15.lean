/-
C15 — arbitrary properties are rendered only when the database's flag is on: with the flag off the DBML of a
column and of a table is that of the same without properties, and SQL never reads them.
-/
import PyDBMLProofs.Except
namespace PyDBML
namespace C15
open Dbml Exc

def Column.noProps (c : Column) : Column := { c with props := [] }
def Table.noProps (t : Table) : Table := { t with props := [], columns := t.columns.map Column.noProps }

/-- with the flag off a column renders as if it carried no properties -/
theorem column_props_hidden (db : Db) (ti ci : Nat) (c : Column) (h : db.allowProps = false) :
    renderColumn db ti ci c = renderColumn db ti ci (Column.noProps c) := by
  unfold renderColumn Column.noProps Sql.typeText
  simp [h]

/-- the last summand of the option list in `Dbml.renderColumn`, taken by itself (`renderColumn` is not mentioned):
    with the flag on it is the column's properties, keys and values exact, order kept -/
theorem column_props_shown (db : Db) (c : Column) (h : db.allowProps = true) :
    (if db.allowProps then c.props.map (fun (k, v) => k ++ lit ": " ++ quoteString v) else [])
      = c.props.map (fun (k, v) => k ++ lit ": " ++ quoteString v) := by
  simp [h]

/-- with the flag off neither the table's own properties nor those of its columns influence the table's DBML -/
theorem table_props_hidden (db : Db) (ti : Nat) (t : Table) (h : db.allowProps = false) :
    renderTableBody db ti t = renderTableBody db ti (Table.noProps t) := by
  unfold renderTableBody
  have hcols : (List.range t.columns.length).mapM (fun ci => do
        let c ← getD? t.columns ci "column position"
        renderColumn db ti ci c)
      = (List.range (Table.noProps t).columns.length).mapM (fun ci => do
        let c ← getD? (Table.noProps t).columns ci "column position"
        renderColumn db ti ci c) := by
    simp only [Table.noProps, List.length_map]
    congr 1
    funext ci
    rw [getD?_map]
    cases hc : getD? t.columns ci "column position" with
    | error e => rfl
    | ok c =>
      simp only [Except.map, bind, Except.bind]
      exact column_props_hidden db ti ci c h
  have hidx : ∀ (ixs : List Index), ixs.mapM (renderIndex t) = ixs.mapM (renderIndex (Table.noProps t)) := by
    intro ixs
    congr 1
    funext ix
    unfold renderIndex renderSubjects
    simp only [Table.noProps]
    congr 2
    · congr 1
      funext sb
      cases sb with
      | col i =>
        simp only
        rw [getD?_map]
        cases getD? t.columns i "index subject position" <;> rfl
      | expr e => rfl
      | raw s => rfl
  rw [hcols]
  simp only [Table.noProps, h, Bool.and_false, List.isEmpty_nil, Bool.not_true]
  simp only [Table.noProps] at hidx
  rw [hidx t.indexes]
  rfl

/-- the SQL renderer never reads properties -/
theorem sql_column_ignores_props (db : Db) (cpk : Bool) (c : Column) :
    Sql.renderColumn db cpk c = Sql.renderColumn db cpk (Column.noProps c) := by
  unfold Sql.renderColumn Sql.typeText Column.noProps
  rfl

end C15
end PyDBML
