/-
C05 — a reference is linked to what the document names, for ANY blueprint: the table under the key written
(alias / bare key / schema.name), the first column of it under each name written.
-/
import PyDBMLProofs.Props.C05
namespace PyDBML
namespace C05
open Build Lex Exc

def SideOK (tables : List Table) (schema tn cn : Str) (ti : Nat) (cols : List Nat) : Prop :=
  ∃ t, tables[ti]? = some t
    ∧ (t.fullName = tn ∨ t.alias = some tn ∨ t.fullName = fullName schema tn ∨ t.alias = some (fullName schema tn))
    ∧ cols.length = (splitComma cn).length
    ∧ ∀ k (hk : k < cols.length), ∃ piece c, (splitComma cn)[k]? = some piece ∧ t.columns[cols[k]]? = some c
        ∧ c.name = stripParenSpace piece
        ∧ ∀ j, j < cols[k] → ∀ c', t.columns[j]? = some c' → c'.name ≠ stripParenSpace piece

theorem colsAt_sound (tables : List Table) (schema tn cn : Str) (ti : Nat) (cols : List Nat)
    (ht : locateTable tables schema tn = .ok ti) (hc : colsAt tables ti cn = .ok cols) :
    SideOK tables schema tn cn ti cols := by
  obtain ⟨t, htt, hkey⟩ := C06.locateTable_sound tables schema tn ti ht
  unfold colsAt at hc
  rw [htt] at hc
  obtain ⟨hl, hk⟩ := locateCols_sound t cn cols hc
  exact ⟨t, htt, hkey, hl, hk⟩

theorem SideOK.in_range {tables : List Table} {schema tn cn : Str} {ti : Nat} {cols : List Nat}
    (h : SideOK tables schema tn cn ti cols) : ∃ t, tables[ti]? = some t ∧ ∀ i ∈ cols, i < t.columns.length := by
  obtain ⟨t, ht, _, _, hk⟩ := h
  refine ⟨t, ht, fun i hi => ?_⟩
  obtain ⟨k, hk', rfl⟩ := List.mem_iff_getElem.mp hi
  obtain ⟨_, c, _, hc, _⟩ := hk k hk'
  exact (List.getElem?_eq_some_iff.mp hc).1

/-- **C05, references, for any document**: the endpoints of a built reference are the columns the document
    names, in the tables the document names - never a column of another table, never a copy, never dropped. -/
theorem buildRef_sound (db : Db) (rb : Bp.RefBp) (r : Ref) (h : buildRef db rb = .ok r) :
    ∃ tn1 tn2 cn1 cn2, rb.table1 = some tn1 ∧ rb.table2 = some tn2 ∧ rb.col1 = some cn1 ∧ rb.col2 = some cn2
      ∧ SideOK db.tables rb.schema1 tn1 cn1 r.t1 r.col1 ∧ SideOK db.tables rb.schema2 tn2 cn2 r.t2 r.col2
      ∧ r.kind = rb.kind ∧ r.onUpdate = rb.onUpdate ∧ r.onDelete = rb.onDelete ∧ r.inlineFlag = rb.inline := by
  rcases C06.buildRef_inv db rb with ⟨e, he, _⟩ | ⟨tn1, tn2, cn1, cn2, mk, hA, hB, hC, hD, heq, hmk⟩
  · rw [he] at h; cases h
  rw [heq] at h
  obtain ⟨t1, h1, h⟩ := bind_ok h
  obtain ⟨c1, h2, h⟩ := bind_ok h
  obtain ⟨t2, h3, h⟩ := bind_ok h
  obtain ⟨c2, h4, h⟩ := bind_ok h
  cases h
  obtain ⟨e1, e2, e3, e4, rest⟩ := hmk t1 c1 t2 c2
  rw [e1, e2, e3, e4]
  exact ⟨tn1, tn2, cn1, cn2, hA, hB, hC, hD, colsAt_sound _ _ _ _ _ _ h1 h2, colsAt_sound _ _ _ _ _ _ h3 h4, rest⟩

/-- every endpoint of a built reference is a column position of a table position of the database: linked to the
    objects the tables hold, never to nothing -/
theorem build_refs_in_range (db : Db) (rb : Bp.RefBp) (r : Ref) (h : buildRef db rb = .ok r) :
    ∃ t1 t2, db.tables[r.t1]? = some t1 ∧ db.tables[r.t2]? = some t2
      ∧ (∀ i ∈ r.col1, i < t1.columns.length) ∧ (∀ i ∈ r.col2, i < t2.columns.length) := by
  obtain ⟨_, _, _, _, _, _, _, _, s1, s2, _⟩ := buildRef_sound db rb r h
  obtain ⟨t1, ht1, hc1⟩ := s1.in_range
  obtain ⟨t2, ht2, hc2⟩ := s2.in_range
  exact ⟨t1, t2, ht1, ht2, hc1, hc2⟩

end C05
end PyDBML
