/-
C18 — what the order actually is (the positive side of the recorded finding KF-C18-hosts-first): the declaration
order stably sorted by the number of inline `>`/`<` references a table hosts, most first.
-/
import PyDBMLProofs.Props.C18
namespace PyDBML
namespace C18
open Sql

theorem insertDesc_mem {α} (key : α → Nat) (x : α) (l : List α) (a : α) :
    a ∈ insertDesc key x l ↔ a = x ∨ a ∈ l := by
  rw [(insertDesc_perm key x l).mem_iff]; simp

theorem insertDesc_sorted {α} (key : α → Nat) (x : α) (l : List α)
    (h : l.Pairwise (fun a b => key a ≥ key b)) : (insertDesc key x l).Pairwise (fun a b => key a ≥ key b) := by
  induction l with
  | nil => simp [insertDesc]
  | cons y ys ih =>
    unfold insertDesc
    have hy := List.pairwise_cons.mp h
    split
    · rename_i hgt
      refine List.pairwise_cons.mpr ⟨?_, ih hy.2⟩
      intro a ha
      rcases (insertDesc_mem key x ys a).mp ha with rfl | ha
      · omega
      · exact hy.1 a ha
    · rename_i hle
      refine List.pairwise_cons.mpr ⟨?_, h⟩
      intro a ha
      rcases List.mem_cons.mp ha with rfl | ha
      · omega
      · have := hy.1 a ha; omega

theorem sortDesc_sorted {α} (key : α → Nat) (l : List α) :
    (sortDesc key l).Pairwise (fun a b => key a ≥ key b) := by
  induction l with
  | nil => simp [sortDesc]
  | cons x xs ih =>
    exact insertDesc_sorted key x _ ih

/-- the count `reorder_tables_for_sql` sorts by: hosted inline `>` / `<` references, per table NAME -/
def hosted (tables : List Table) (refs : List Ref) (i : Nat) : Nat :=
  match tables[i]? with
  | some t => countFor tables refs t.name
  | none => 0

theorem order_sorted (tables : List Table) (refs : List Ref) :
    (reorderIdx tables refs).Pairwise (fun i j => hosted tables refs i ≥ hosted tables refs j) :=
  sortDesc_sorted _ _

theorem insertDesc_sublist {α} (key : α → Nat) (x : α) (l : List α) : l.Sublist (insertDesc key x l) := by
  induction l with
  | nil => simp [insertDesc]
  | cons y ys ih =>
    unfold insertDesc
    split
    · exact List.Sublist.cons_cons y ih
    · exact List.Sublist.cons x (List.Sublist.refl _)

theorem insertDesc_before {α} (key : α → Nat) (x : α) (l : List α) :
    ∃ pre post, insertDesc key x l = pre ++ x :: post ∧ l = pre ++ post ∧ (∀ a ∈ pre, key a > key x) := by
  induction l with
  | nil => exact ⟨[], [], by simp [insertDesc], rfl, by simp⟩
  | cons y ys ih =>
    unfold insertDesc
    split
    · rename_i hgt
      obtain ⟨pre, post, h1, h2, h3⟩ := ih
      refine ⟨y :: pre, post, by simp [h1], by simp [h2], ?_⟩
      intro a ha
      rcases List.mem_cons.mp ha with rfl | ha
      · exact hgt
      · exact h3 a ha
    · exact ⟨[], y :: ys, rfl, rfl, by simp⟩

theorem sortDesc_stable {α} (key : α → Nat) (l : List α) (k : Nat) :
    (sortDesc key l).filter (fun a => key a == k) = l.filter (fun a => key a == k) := by
  induction l with
  | nil => simp [sortDesc]
  | cons x xs ih =>
    show (insertDesc key x (sortDesc key xs)).filter _ = _
    obtain ⟨pre, post, h1, h2, h3⟩ := insertDesc_before key x (sortDesc key xs)
    rw [h1, List.filter_append, List.filter_cons]
    rw [h2, List.filter_append] at ih
    by_cases hk : key x = k
    · have hpre : pre.filter (fun a => key a == k) = [] := by
        rw [List.filter_eq_nil_iff]
        intro a ha
        have := h3 a ha
        simp; omega
      simp only [hk, beq_self_eq_true, ↓reduceIte, hpre, List.nil_append] at ih ⊢
      rw [List.filter_cons]
      simp [hk, ← ih]
    · have hk' : (key x == k) = false := by simpa using hk
      simp only [hk', Bool.false_eq_true, ↓reduceIte] at ih ⊢
      rw [List.filter_cons]
      simp [hk', ← ih]

/-- tables hosting equally many inline references keep their declaration order -/
theorem order_stable (tables : List Table) (refs : List Ref) (k : Nat) :
    (reorderIdx tables refs).filter (fun i => hosted tables refs i == k)
      = (List.range tables.length).filter (fun i => hosted tables refs i == k) :=
  sortDesc_stable _ _ k

theorem order_identity_without_hosts (tables : List Table) (refs : List Ref)
    (h : ∀ i, hosted tables refs i = 0) : reorderIdx tables refs = List.range tables.length := by
  have := order_stable tables refs 0
  simp only [h, beq_self_eq_true] at this
  rwa [List.filter_eq_self.mpr fun _ _ => rfl, List.filter_eq_self.mpr fun _ _ => rfl] at this

end C18
end PyDBML
