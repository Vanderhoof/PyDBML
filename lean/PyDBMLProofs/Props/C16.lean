/-
C16 — element and database renderings agree and use the configured renderers.
-/
import PyDBMLProofs.Except
import PyDBMLProofs.Props.C18
namespace PyDBML
namespace C16
open Dispatch Exc

theorem renderOutcome_custom (sql : Bool) (handled : List EKind) (k : EKind) (attached : Bool) (unset : List String) :
    renderOutcome sql (.custom handled) k attached unset =
      if hasDatabaseAttr k && attached then (if handled.contains k then .marker else .empty)
      else renderOutcome sql .defaultR k attached unset := by
  unfold renderOutcome rendererFor
  cases hasDatabaseAttr k && attached <;> rfl

/-- every attached element of a kind with a `database` (and every column of an attached table) renders through the
    configured class: the handler's output if there is one, the empty string otherwise -/
theorem attached_uses_configured (sql : Bool) (handled : List EKind) (k : EKind) (unset : List String)
    (hk : hasDatabaseAttr k = true) :
    renderOutcome sql (.custom handled) k true unset = if handled.contains k then .marker else .empty := by
  rw [renderOutcome_custom, hk]
  rfl

theorem unsupported_is_empty (sql : Bool) (handled : List EKind) (k : EKind) (unset : List String)
    (hk : hasDatabaseAttr k = true) (hn : k ∉ handled) :
    renderOutcome sql (.custom handled) k true unset = .empty := by
  rw [attached_uses_configured sql handled k unset hk, if_neg (by simpa using hn)]

/-- detached elements use the default renderers -/
theorem detached_uses_default (sql : Bool) (cfg : Cfg) (k : EKind) (unset : List String) :
    renderOutcome sql cfg k false unset = renderOutcome sql .defaultR k false unset := by
  cases cfg with
  | defaultR => rfl
  | custom handled => rw [renderOutcome_custom, Bool.and_false]; rfl

/-- Index, Note, EnumItem and Expression carry no `database`: they always use the defaults. -/
theorem ownerless_kinds_use_default (k : EKind) (attached : Bool) (hk : hasDatabaseAttr k = false) :
    rendererFor k attached = .default := by
  simp [rendererFor, hk]

example : hasDatabaseAttr .table ∧ hasDatabaseAttr .column ∧ hasDatabaseAttr .enum ∧ hasDatabaseAttr .reference
    ∧ hasDatabaseAttr .group ∧ hasDatabaseAttr .project ∧ hasDatabaseAttr .sticky
    ∧ ¬ hasDatabaseAttr .index ∧ ¬ hasDatabaseAttr .note := by decide

/-- `db.dbml` is the blank-line join of the project (if any), every enum, every table, every non-inline reference,
    every table group, every sticky note — in that order, each element's own rendering -/
theorem dbml_is_join_of_elements (db : Db) (txt : Str) (h : Dbml.renderDb db = .ok txt) :
    ∃ proj tables refs groups,
      Dbml.renderProjectList db = .ok proj
      ∧ (List.range db.tables.length).mapM (Dbml.renderTable db) = .ok tables
      ∧ (db.refs.filter (!·.inline)).mapM (Dbml.renderRef db) = .ok refs
      ∧ db.groups.mapM (Dbml.renderGroup db) = .ok groups
      ∧ tables.length = db.tables.length
      ∧ txt = joinWith (lit "\n\n")
          (proj ++ db.enums.map Dbml.renderEnum ++ tables ++ refs ++ groups ++ db.sticky.map Dbml.renderSticky) := by
  unfold Dbml.renderDb at h
  obtain ⟨proj, hp, h⟩ := bind_ok h
  obtain ⟨tables, ht, h⟩ := bind_ok h
  obtain ⟨refs, hr, h⟩ := bind_ok h
  obtain ⟨groups, hg, h⟩ := bind_ok h
  cases h
  exact ⟨proj, tables, refs, groups, hp, ht, hr, hg, by simpa using (mapM_ok ht).1, rfl⟩

theorem project_segment (db : Db) (proj : List Str) (h : Dbml.renderProjectList db = .ok proj) :
    proj.length = if db.project.isSome then 1 else 0 := by
  unfold Dbml.renderProjectList at h
  cases hp : db.project with
  | none => rw [hp] at h; cases h; rfl
  | some p =>
    rw [hp] at h
    dsimp only at h
    cases hr : Dbml.renderProject p with
    | error e => rw [hr] at h; cases h
    | ok v => rw [hr] at h; cases h; rfl

/-- `db.sql` is the blank-line join of every enum, the tables in the order of C18 (as many as there are) and every
    non-inline reference -/
theorem sql_is_join_of_elements (db : Db) (txt : Str) (h : Sql.renderDb db = .ok txt) :
    ∃ tables refs,
      (Sql.reorderIdx db.tables db.refs).mapM (Sql.renderTable db) = .ok tables
      ∧ (db.refs.filter (!·.inline)).mapM (Sql.renderRefTop db) = .ok refs
      ∧ tables.length = db.tables.length
      ∧ txt = joinWith (lit "\n\n") (db.enums.map Sql.renderEnum ++ tables ++ refs) := by
  unfold Sql.renderDb at h
  obtain ⟨tables, ht, h⟩ := bind_ok h
  obtain ⟨refs, hr, h⟩ := bind_ok h
  cases h
  refine ⟨tables, refs, ht, hr, ?_, rfl⟩
  rw [(mapM_ok ht).1, (C18.perm db.tables db.refs).length_eq, List.length_range]

end C16
end PyDBML
