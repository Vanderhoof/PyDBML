/-
C02/C01 — a column form (`ColForm`, C02Form.lean) carried through the table rule for a keyword and a name in any spelling
(`ColForm.run_tableRule`), the element form of a table, the build and the renderer: `form_tables_roundtrip`.
-/
import PyDBMLProofs.Props.C02Form
import PyDBMLProofs.Props.C02Comment
import PyDBMLProofs.Props.C02TableNote
import PyDBMLProofs.Props.C02Refs
import PyDBMLProofs.Except
namespace PyDBML
namespace C02
open Lex Grammar Build

variable {σ : Type}

/-- a table with the note `nt` (empty: none) after its columns, followed by `post` -/
def ColForm.tableTextP (F : ColForm σ) (tn : Str) (cs : List σ) (nt : Str) (post : Str) : Str :=
  'T' :: 'a' :: 'b' :: 'l' :: 'e' :: ' ' :: '"' :: (tn ++ '"' :: ' ' :: '{' :: '\n' :: (F.text cs ++ (noteBlock nt ++ '}' :: post)))

def ColForm.tableTextN (F : ColForm σ) (tn : Str) (cs : List σ) (nt : Str) : Str :=
  'T' :: 'a' :: 'b' :: 'l' :: 'e' :: ' ' :: '"' :: (tn ++ '"' :: ' ' :: '{' :: '\n' :: (F.text cs ++ (noteBlock nt ++ ['}'])))

theorem ColForm.tableTextN_nil (F : ColForm σ) (tn : Str) (cs : List σ) : F.tableTextN tn cs [] = F.tableText tn cs := rfl

def noteOpt (nt : Str) : Option Str := if nt.isEmpty then none else some nt

/-- the table blueprint with the note and the comment `_c` collected above it -/
def ColForm.tableBpC (F : ColForm σ) (tn : Str) (cs : List σ) (nt : Str) (cm : Option Str) : Bp.TableBp :=
  { name := tn, schema := lit "public", columns := cs.map F.bp, note := noteOpt nt, comment := cm }

theorem buildNote_noteOpt (t : Str) (h : norm t = t) : buildNote (noteOpt t) = .ok t := by
  unfold noteOpt
  split
  · rename_i h0; rw [List.isEmpty_iff.mp h0]; rfl
  · exact congrArg Except.ok h

theorem filterMap_noteElems_none {β} (nt : Str) (f : TblElem → Option β) (h : ∀ t, f (TblElem.note t) = none) :
    (noteElems nt).filterMap f = [] := by
  unfold noteElems; split <;> simp [h]

theorem foldl_noteElemsG (nt : Str) (f : Option Str → TblElem → Option Str) (h : ∀ a t, f a (TblElem.note t) = some t) :
    (noteElems nt).foldl f none = noteOpt nt := by
  unfold noteElems noteOpt; split <;> simp [h]

def ColForm.tableTextK (F : ColForm σ) (kw nm : Str) (cs : List σ) (nt : Str) (post : Str) : Str :=
  kw ++ ' ' :: (nm ++ ' ' :: '{' :: '\n' :: (F.text cs ++ (noteBlock nt ++ '}' :: post)))

theorem ColForm.tableTextK_Table (F : ColForm σ) (tn : Str) (cs : List σ) (nt post : Str) :
    F.tableTextK (lit "Table") ('"' :: (tn ++ ['"'])) cs nt post = F.tableTextP tn cs nt post := by
  simp [ColForm.tableTextK, ColForm.tableTextP, lit]

/-- given what `_c` does in front of the table (it ends where a word may begin) and what the end rule does after it -/
theorem ColForm.run_tableRule (F : ColForm σ) (props : Bool) {A Q : Cur → Prop} (kw nm tn : Str) (cs : List σ) (nt post : Str)
    (bs : List Str) (hkw : KwFactsG (lit "table") [] kw = true) (hnm : Spells nm tn) (hcs : F.allOK props cs) (hne : cs ≠ []) (hnt : TNoteOK nt)
    (hb : Run cBefore bs A (AtWord (F.tableTextK kw nm cs nt post))) (hend : Run endRule () (At post) Q) :
    Run (tableRule props) (F.tableBpC tn cs nt (joinBefore bs)) A Q := by
  obtain ⟨hlen, hswc, _, k0, ks, rfl, hk1, _⟩ := kwFactsG_elim _ _ _ hkw
  obtain ⟨s0, ps, rfl⟩ := List.exists_cons_of_ne_nil hne
  have hE := endOK_note nt post
  refine .bind hb ?_
  refine .bind (run_ckw toList_table k0 ks ' ' _ hk1 hlen (toList_table ▸ hswc) (by decide)) ?_
  refine .bind (.alt_right (.bind_after (hnm.run 1 _) (.bind (fails_sym toList_dot 1 '{' _ (by decide) (by decide))))
    (.bind (hnm.run 1 _) .pure)) ?_
  refine .bind (.opt_none (fails_alias 1 '{' _ (by decide) (by decide))) ?_
  refine .bind (.opt_none (.bind (fails_sym toList_lbrack 1 '{' _ (by decide) (by decide)))) ?_
  refine .bind (stay_skipNl (endOK_at 1 '{' _ (by decide))) ?_
  refine .bind (run_lbrace 1 _) (.cut ?_)
  -- the body: the first element passes the line break after the brace, the others follow line by line
  refine .bind (.manyF_cons_list (TblElem.column ∘ F.bp) (fun ys => F.text ys ++ (noteBlock nt ++ '}' :: post)) (fun _ => false)
      (F.ok props) (fun x ys hx => F.run_col props x ys _ hE hx) (F.text_shrinks _) (Nat.le_refl 1)
      (fun fuel hf => .of_at (bodyEnd_note props nt post hnt fuel · hf)) s0 ps (fun q hq => hcs q (by simp [hq]))
      (run_tableElement_nl (F.body_endOK (s0 :: ps) _ hE) (F.run_col props s0 ps _ hE (hcs s0 (by simp))))
      (fun c hc => by rw [hc.1]; exact Nat.lt_succ_of_lt (F.text_shrinks _ s0 ps))) ?_
  refine .bind (stay_skipNl (endOK_brace post)) ?_
  refine .bind (run_rbrace 0 _) ?_
  refine .bind hend ?_
  simp only [List.filterMap_append, List.foldl_append]
  rw [filterMap_map_some _ (TblElem.column ∘ F.bp) _ F.bp (fun _ => rfl), filterMap_map_none _ (TblElem.column ∘ F.bp) _ (fun _ => rfl),
    filterMap_map_none _ (TblElem.column ∘ F.bp) _ (fun _ => rfl), foldl_map_skip _ (TblElem.column ∘ F.bp) _ (fun _ _ => rfl),
    filterMap_noteElems_none _ _ (fun _ => rfl), filterMap_noteElems_none _ _ (fun _ => rfl),
    filterMap_noteElems_none _ _ (fun _ => rfl), foldl_noteElemsG _ _ (fun _ _ => rfl)]
  exact .pure_eq (by cases hno : noteOpt nt <;> simp [ColForm.tableBpC, hno])

theorem kwFactsG_Table : KwFactsG (lit "table") [] (lit "Table") = true := by decide +kernel

/-- … in the renderer's spelling: keyword `Table`, name in double quotes -/
theorem ColForm.tableRule_okP (F : ColForm σ) (props : Bool) (c c0 : Cur) (tn : Str) (cs : List σ) (nt : Str) (post : Str)
    (Q : Cur → Prop) (bs : List Str) (hb : cBefore c = .ok bs c0)
    (hc : c0.rest = F.tableTextP tn cs nt post) (hp : c0.pastEnd = false)
    (hprev : ∀ p, c0.prev = some p → isKwIdent p = false)
    (htn : NameOK tn) (hcs : F.allOK props cs) (hne : cs ≠ []) (hnt : TNoteOK nt)
    (hend : ∀ c7 : Cur, c7.rest = post → c7.pastEnd = false → ∃ c9, endRule c7 = .ok () c9 ∧ Q c9) :
    ∃ c9, tableRule props c = .ok (F.tableBpC tn cs nt (joinBefore bs)) c9 ∧ Q c9 :=
  F.run_tableRule props (lit "Table") ('"' :: (tn ++ ['"'])) tn cs nt post bs kwFactsG_Table (spells_quoted tn htn) hcs hne hnt
    (.of_eq hb ⟨⟨by rw [hc, F.tableTextK_Table], hp⟩, hprev⟩) (.of_at hend) c rfl

/-- a table: its name, its columns, the one-line comment above it, if any, and its note (empty: none) -/
structure FTab (σ : Type) where
  name : Str
  cols : List σ
  comment : Option Str := none
  note : Str := []

def ColForm.specOK (F : ColForm σ) (ap : Bool) (t : FTab σ) : Prop :=
  NameOK t.name ∧ F.allOK ap t.cols ∧ t.cols ≠ [] ∧ CmOK t.comment ∧ TNoteOK t.note

def ColForm.tabTextP (F : ColForm σ) (t : FTab σ) (post : Str) : Str :=
  commentText t.comment ++ F.tableTextP t.name t.cols t.note post

def ColForm.tabText (F : ColForm σ) (t : FTab σ) : Str := commentText t.comment ++ F.tableTextN t.name t.cols t.note

theorem ColForm.tabTextP_append (F : ColForm σ) (t : FTab σ) (post : Str) : F.tabTextP t post = F.tabText t ++ post := by
  simp [ColForm.tabTextP, ColForm.tabText, ColForm.tableTextP, ColForm.tableTextN]

def ColForm.docTail (F : ColForm σ) : List (FTab σ) → Str
  | [] => []
  | t :: ts => '\n' :: '\n' :: F.tabTextP t (F.docTail ts)

def ColForm.afterText (F : ColForm σ) : List (FTab σ) → Str
  | [] => []
  | t :: ts => '\n' :: F.tabTextP t (F.docTail ts)

def ColForm.docText (F : ColForm σ) : List (FTab σ) → Str
  | [] => []
  | t :: ts => F.tabTextP t (F.docTail ts)

def ColForm.mkElem (F : ColForm σ) (t : FTab σ) : Bp.Elem := Bp.Elem.table (F.tableBpC t.name t.cols t.note t.comment)

def ColForm.mkTable (F : ColForm σ) (t : FTab σ) : Table := { F.table t.name t.cols with comment := t.comment, note := t.note }

theorem ColForm.quiet_tableTextP (F : ColForm σ) (tn : Str) (cs : List σ) (nt : Str) (post : Str) (d : Cur)
    (hd : d.rest = F.tableTextP tn cs nt post) : sym "\n" d = .fail ∧ comment d = .fail :=
  Quiet.of_ws (by decide) (by decide) (e := d.pastEnd) ⟨skipWs_rest_head d 'T' _ (by rw [hd]; rfl) (by decide), rfl⟩

theorem ColForm.tableTextN_no_tab (F : ColForm σ) (ap : Bool) (tn : Str) (cs : List σ) (nt : Str) (htn : NameOK tn)
    (hcs : F.allOK ap cs) (hnt : Plain nt) : ∀ c ∈ F.tableTextN tn cs nt, c ≠ '\t' := by
  simp only [ColForm.tableTextN, List.forall_mem_cons, List.forall_mem_append, List.mem_nil_iff, false_imp_iff, implies_true, ne_eq, Char.reduceEq,
    not_false_eq_true, true_and, and_true]
  exact ⟨fun c hc => (htn c hc).2.2.2, F.text_no_tab ap cs hcs, noteBlock_no_tab nt hnt⟩

def ColForm.tableE (F : ColForm σ) (ap : Bool) (t : FTab σ) (ht : F.specOK ap t) : EForm ap where
  pre := t.comment
  head := 'T'
  body := 'a' :: 'b' :: 'l' :: 'e' :: ' ' :: '"' :: (t.name ++ '"' :: ' ' :: '{' :: '\n' :: (F.text t.cols ++ (noteBlock t.note ++ ['}'])))
  elem := F.mkElem t
  headOK := by decide
  headAscii := by decide
  preOK := ht.2.2.2.1
  noTab := F.tableTextN_no_tab ap t.name t.cols t.note ht.1 ht.2.1 ht.2.2.2.2.1
  parse := by
    intro c c0 post hb hr0 hp0 hpv0 hends
    have h := run_element_table (ap := ap) (F.run_tableRule ap (lit "Table") ('"' :: (t.name ++ ['"'])) t.name t.cols t.note post
      (cmList t.comment) kwFactsG_Table (spells_quoted t.name ht.1) ht.2.1 ht.2.2.1 ht.2.2.2.2
      (.of_eq hb ⟨⟨by rw [hr0]; simp [ColForm.tableTextK, lit], hp0⟩, hpv0⟩) (run_endRule_after hends))
    rw [joinBefore_cmList] at h
    obtain ⟨c9, h9⟩ := h c rfl
    exact ⟨c9, h9⟩

theorem ColForm.tableE_text (F : ColForm σ) (ap : Bool) (t : FTab σ) (ht : F.specOK ap t) :
    (F.tableE ap t ht).text = F.tabText t := by
  simp [EForm.text, ColForm.tableE, ColForm.tabText, ColForm.tableTextN]

def ColForm.tableEs (F : ColForm σ) (ap : Bool) (ts : List (FTab σ)) (h : ∀ t ∈ ts, F.specOK ap t) : List (EForm ap) :=
  ts.pmap (fun t ht => F.tableE ap t ht) h

theorem ColForm.tableEs_elems (F : ColForm σ) (ap : Bool) (ts : List (FTab σ)) (h : ∀ t ∈ ts, F.specOK ap t) :
    (F.tableEs ap ts h).map (·.elem) = ts.map F.mkElem :=
  map_pmap_const (fun t ht => F.tableE ap t ht) (·.elem) F.mkElem (fun _ _ => rfl) ts h

def ColForm.docTailR (F : ColForm σ) : List (FTab σ) → List RText → Str
  | [], rs => refsTail rs
  | t :: ts, rs => '\n' :: '\n' :: F.tabTextP t (F.docTailR ts rs)

def ColForm.afterR (F : ColForm σ) : List (FTab σ) → List RText → Str
  | [], rs => refsAfter rs
  | t :: ts, rs => '\n' :: F.tabTextP t (F.docTailR ts rs)

def ColForm.docTextR (F : ColForm σ) : List (FTab σ) → List RText → Str
  | [], _ => []
  | t :: ts, rs => F.tabTextP t (F.docTailR ts rs)

theorem ColForm.docTailR_eqE (F : ColForm σ) (ap : Bool) (rs : List RText) (hrs : ∀ r ∈ rs, RTextOK r) :
    ∀ (ts : List (FTab σ)) (h : ∀ t ∈ ts, F.specOK ap t),
      F.docTailR ts rs = docTailE (F.tableEs ap ts h ++ refEs ap rs hrs)
  | [], _ => by simp [ColForm.docTailR, ColForm.tableEs, refsTail_eqE ap rs hrs]
  | t :: r, h => by
    simp only [ColForm.docTailR, ColForm.tableEs, List.pmap, List.cons_append, docTailE, F.tableE_text, F.tabTextP_append]
    rw [F.docTailR_eqE ap rs hrs r (fun q hq => h q (by simp [hq]))]
    simp [ColForm.tableEs]

theorem ColForm.docTextR_eqE (F : ColForm σ) (ap : Bool) (rs : List RText) (hrs : ∀ r ∈ rs, RTextOK r)
    (t : FTab σ) (r : List (FTab σ)) (h : ∀ u ∈ t :: r, F.specOK ap u) :
    F.docTextR (t :: r) rs = docTextE (F.tableEs ap (t :: r) h ++ refEs ap rs hrs) :=
  (List.cons.inj (List.cons.inj (F.docTailR_eqE ap rs hrs (t :: r) h)).2).2

theorem ColForm.afterR_eqE (F : ColForm σ) (ap : Bool) (rs : List RText) (hrs : ∀ r ∈ rs, RTextOK r)
    (ts : List (FTab σ)) (h : ∀ t ∈ ts, F.specOK ap t) :
    F.afterR ts rs = afterE (F.tableEs ap ts h ++ refEs ap rs hrs) := by
  cases ts with
  | nil => simp [ColForm.afterR, ColForm.tableEs, refsAfter_eqE ap rs hrs]
  | cons t r => exact (List.cons.inj (F.docTailR_eqE ap rs hrs (t :: r) h)).2

theorem ColForm.docTailR_nil (F : ColForm σ) : ∀ ts : List (FTab σ), F.docTailR ts [] = F.docTail ts
  | [] => rfl
  | t :: r => by simp [ColForm.docTailR, ColForm.docTail, F.docTailR_nil r]

theorem ColForm.docTextR_nil (F : ColForm σ) (ts : List (FTab σ)) : F.docTextR ts [] = F.docText ts := by
  cases ts <;> simp [ColForm.docTextR, ColForm.docText, F.docTailR_nil]

theorem ColForm.afterR_nil (F : ColForm σ) (ts : List (FTab σ)) : F.afterR ts [] = F.afterText ts := by
  cases ts <;> simp [ColForm.afterR, ColForm.afterText, refsAfter, F.docTailR_nil]

theorem ColForm.parseDoc_tables_refs (F : ColForm σ) (ap : Bool) (ts : List (FTab σ)) (rs : List RText)
    (hok : ∀ t ∈ ts, F.specOK ap t) (hrs : ∀ r ∈ rs, RTextOK r) (hne : ts ≠ []) :
    ∃ c', parseDoc ap (F.docTextR ts rs) = .ok (ts.map F.mkElem ++ rs.map mkRefElem) c' := by
  obtain ⟨t, r, rfl⟩ := List.exists_cons_of_ne_nil hne
  rw [F.docTextR_eqE ap rs hrs t r hok, ← F.tableEs_elems ap (t :: r) hok, ← refEs_elems ap rs hrs, ← List.map_append]
  exact parseDoc_elems _ (by simp [ColForm.tableEs])

theorem ColForm.parseDoc_tables (F : ColForm σ) (ap : Bool) (ts : List (FTab σ)) (hok : ∀ t ∈ ts, F.specOK ap t)
    (hne : ts ≠ []) : ∃ c', parseDoc ap (F.docText ts) = .ok (ts.map F.mkElem) c' := by
  simpa [F.docTextR_nil] using F.parseDoc_tables_refs ap ts [] hok (by simp) hne

theorem ColForm.many_tables (F : ColForm σ) (ap : Bool) : ∀ (ts : List (FTab σ)) (fuel : Nat) (c : Cur), ts.length < fuel →
    (∀ t ∈ ts, F.specOK ap t) → c.rest = F.afterText ts → c.pastEnd = ts.isEmpty →
    ∃ c', many (element ap) fuel c = .ok (ts.map F.mkElem) c' ∧ c'.rest = [] ∧ c'.pastEnd = true := by
  intro ts fuel c hf hok hc hp
  have := many_elems (F.tableEs ap ts hok ++ refEs ap [] (by simp)) fuel c (by simpa [ColForm.tableEs, refEs] using hf)
    (by rw [hc, ← F.afterR_nil, F.afterR_eqE ap [] (by simp) ts hok]) (by rw [hp]; cases ts <;> rfl)
  simpa [F.tableEs_elems, refEs] using this

/-- no column's type names a declared enum (such a column would hold the enum, not the type text) -/
def ColForm.noShadow (F : ColForm σ) (enums : List Enum) (t : FTab σ) : Prop :=
  ∀ s ∈ t.cols, resolveTypePure enums (F.bp s).type = .plain (F.bp s).type

theorem ColForm.buildTable_of (F : ColForm σ) (enums : List Enum) (t : FTab σ)
    (hcol : ∀ s ∈ t.cols, buildColumn enums (F.bp s) = .ok (F.col s)) (hnt : norm t.note = t.note) :
    buildTable enums (F.tableBpC t.name t.cols t.note t.comment) = .ok (F.mkTable t) := by
  have hnote := buildNote_noteOpt t.note hnt
  have hcols : (t.cols.map F.bp).mapM (buildColumn enums) = .ok (t.cols.map F.col) := by
    rw [List.mapM_map]
    exact mapM_ok_map_mem _ _ t.cols hcol
  simp [buildTable, ColForm.tableBpC, hnote, hcols, ColForm.mkTable, ColForm.table, bind, Except.bind, pure, Except.pure]

theorem ColForm.addTable_ok (F : ColForm σ) (done : List (FTab σ)) (t : FTab σ) (hd : ∀ u ∈ done, u.name ≠ t.name) :
    addTable (done.map F.mkTable) (F.mkTable t) = .ok (done.map F.mkTable ++ [F.mkTable t]) := by
  unfold addTable
  have h1 : (done.map F.mkTable).contains (F.mkTable t) = false := by
    simp only [List.contains_eq_mem, decide_eq_false_iff_not, List.mem_map, not_exists, not_and]
    intro u hu e
    apply hd u hu
    have : (F.mkTable u).name = (F.mkTable t).name := by rw [e]
    simpa [ColForm.mkTable, ColForm.table] using this
  have h2 : hasKey (done.map F.mkTable) (F.mkTable t).fullName = false := by
    simp only [hasKey, List.any_eq_false, List.mem_map, forall_exists_index, and_imp, forall_apply_eq_imp_iff₂]
    intro u hu
    simp only [ColForm.mkTable, ColForm.table, Table.fullName, Bool.or_eq_true, beq_iff_eq, not_or]
    refine ⟨fun e => hd u hu (fullName_inj _ _ e), by simp⟩
  simp only [h1, h2, Bool.false_eq_true, ↓reduceIte]
  simp [ColForm.mkTable, ColForm.table, pure, Except.pure]

theorem ColForm.foldlM_tables_of (F : ColForm σ) (enums : List Enum) : ∀ (todo done : List (FTab σ)),
    (done ++ todo).Pairwise (fun a b => a.name ≠ b.name) →
    (∀ t ∈ todo, ∀ s ∈ t.cols, buildColumn enums (F.bp s) = .ok (F.col s)) → (∀ t ∈ todo, norm t.note = t.note) →
    (todo.map fun t => F.tableBpC t.name t.cols t.note t.comment).foldlM (tableStep enums) (done.map F.mkTable)
      = .ok ((done ++ todo).map F.mkTable) := fun todo done hp hcol hnn =>
  Exc.foldlM_extend (f := fun t => F.tableBpC t.name t.cols t.note t.comment) (g := F.mkTable)
    (P := fun t => (∀ s ∈ t.cols, buildColumn enums (F.bp s) = .ok (F.col s)) ∧ norm t.note = t.note)
    (fun done t hd ht => by
      unfold tableStep
      simp only [F.buildTable_of enums t ht.1 ht.2, bind, Except.bind, F.addTable_ok done t hd]
      simp)
    todo done hp fun t ht => ⟨hcol t ht, hnn t ht⟩

theorem ColForm.foldlM_tables (F : ColForm σ) (ap : Bool) (enums : List Enum) : ∀ (todo done : List (FTab σ)),
    (done ++ todo).Pairwise (fun a b => a.name ≠ b.name) → (∀ t ∈ todo, F.allOK ap t.cols) →
    (∀ t ∈ todo, F.noShadow enums t) → (∀ t ∈ todo, norm t.note = t.note) →
    (todo.map fun t => F.tableBpC t.name t.cols t.note t.comment).foldlM (tableStep enums) (done.map F.mkTable) = .ok ((done ++ todo).map F.mkTable) :=
  fun todo done hp hok hns hnn =>
    F.foldlM_tables_of enums todo done hp (fun t ht s hs => F.build ap enums s (hok t ht s hs) (hns t ht s hs)) hnn

theorem ColForm.kinds_mkElem (F : ColForm σ) (ts : List (FTab σ)) :
    tableBps (ts.map F.mkElem) = (ts.map fun t => F.tableBpC t.name t.cols t.note t.comment) ∧ enumBps (ts.map F.mkElem) = []
      ∧ groupBps (ts.map F.mkElem) = [] ∧ stickyBps (ts.map F.mkElem) = [] ∧ projectBp (ts.map F.mkElem) = none := by
  simp [tableBps, enumBps, groupBps, stickyBps, projectBp, ColForm.mkElem, List.filterMap_map, Function.comp_def]

theorem ColForm.refBlueprints_mkElem_nil (F : ColForm σ) (ts : List (FTab σ)) (hno : ∀ t ∈ ts, ∀ s ∈ t.cols, F.irefs s = []) :
    refBlueprints (ts.map F.mkElem) = [] := by
  simp only [refBlueprints, ColForm.mkElem, List.flatMap_map, List.flatMap_eq_nil_iff]
  intro t ht
  simp only [ColForm.tableBpC]
  intro b hb
  obtain ⟨s, hs, rfl⟩ := List.mem_map.mp hb
  simp [F.norefs s (hno t ht s hs)]

theorem ColForm.build_tables_of (F : ColForm σ) (ap : Bool) (ts : List (FTab σ)) (hd : ts.Pairwise (fun a b => a.name ≠ b.name))
    (hcol : ∀ t ∈ ts, ∀ s ∈ t.cols, buildColumn [] (F.bp s) = .ok (F.col s)) (hno : ∀ t ∈ ts, ∀ s ∈ t.cols, F.irefs s = [])
    (hnn : ∀ t ∈ ts, norm t.note = t.note) :
    buildDatabase ap (ts.map F.mkElem) = .ok { tables := ts.map F.mkTable, allowProps := ap } := by
  obtain ⟨hT, hE, hG, hS, hP⟩ := F.kinds_mkElem ts
  have hR := F.refBlueprints_mkElem_nil ts hno
  have hF := F.foldlM_tables_of [] ts [] (by simpa using hd) hcol hnn
  simp only [List.map_nil, List.nil_append] at hF
  unfold buildDatabase
  simp [hT, hE, hG, hS, hP, hR, hF, buildProject, bind, Except.bind, pure, Except.pure]

theorem ColForm.build_tables (F : ColForm σ) (ap : Bool) (ts : List (FTab σ)) (hd : ts.Pairwise (fun a b => a.name ≠ b.name))
    (hok : ∀ t ∈ ts, F.allOK ap t.cols) (hno : ∀ t ∈ ts, ∀ s ∈ t.cols, F.irefs s = [])
    (hnn : ∀ t ∈ ts, norm t.note = t.note) :
    buildDatabase ap (ts.map F.mkElem) = .ok { tables := ts.map F.mkTable, allowProps := ap } :=
  F.build_tables_of ap ts hd (fun t ht s hs => F.build ap [] s (hok t ht s hs) rfl) hno hnn

theorem ColForm.renderTableBody_ok (F : ColForm σ) (db : Db) (ti : Nat) (tn : Str) (cs : List σ) (cm : Option Str) (nt : Str)
    (hinl : ∀ ci s, cs[ci]? = some s →
      (Dbml.inlineRefsOfColumn db ti ci).mapM (Dbml.renderInlineRef db) = .ok ((F.irefs s).map IRefT.text))
    (hcs : F.allOK db.allowProps cs) (hne : cs ≠ []) (hcm : CmOK cm) (hnt : Plain nt) :
    Dbml.renderTableBody db ti { F.table tn cs with comment := cm, note := nt }
      = .ok (commentText cm ++ F.tableTextN tn cs nt) := by
  have hcols : (List.range ({ F.table tn cs with comment := cm, note := nt } : Table).columns.length).mapM (fun ci => do
      let c ← getD? ({ F.table tn cs with comment := cm, note := nt } : Table).columns ci "column position"
      Dbml.renderColumn db ti ci c) = .ok (cs.map F.str) :=
    range_mapM_form_pos F.col "column position" F.str cs
      (fun ci c => Dbml.renderColumn db ti ci c)
      (fun i s hs => F.render db ti i s (hcs s (List.mem_of_getElem? hs)) (hinl i s hs))
  have hbody := indent4_lines (cs.map F.str) (by simpa using hne)
    (List.forall_mem_map.mpr fun s hs => F.lineOK db.allowProps s (hcs s hs))
    (List.forall_mem_map.mpr fun s _ => let ⟨q, hq⟩ := F.quoted s; ⟨'"', q, hq, by decide⟩)
  rw [← F.text_flatMap] at hbody
  unfold Dbml.renderTableBody
  rw [hcols]
  -- the comment, the column lines and the note block vary; the rest of the table text is fixed
  simp only [bind, Except.bind, pure, Except.pure, hbody, renderNote_block nt hnt, optComment_eq cm hcm]
  simp [ColForm.table, ColForm.tableTextN, truthy, qualName, lit]

theorem ColForm.inl_plain (F : ColForm σ) (db : Db) (hni : ∀ r ∈ db.refs, r.inline = false) (ti : Nat) (cs : List σ)
    (hno : ∀ s ∈ cs, F.irefs s = []) (ci : Nat) (s : σ) (hs : cs[ci]? = some s) :
    (Dbml.inlineRefsOfColumn db ti ci).mapM (Dbml.renderInlineRef db) = .ok ((F.irefs s).map IRefT.text) := by
  have hf : Dbml.inlineRefsOfColumn db ti ci = [] := by
    unfold Dbml.inlineRefsOfColumn
    rw [List.filter_eq_nil_iff]
    intro r hr
    simp [hni r hr]
  rw [hf, hno s (List.mem_of_getElem? hs)]
  rfl

theorem ColForm.joinWith_tables (F : ColForm σ) : ∀ (ts : List (FTab σ)),
    joinWith (lit "\n\n") (ts.map fun t => F.tabText t) = F.docText ts
  | [] => rfl
  | t :: r => by
    rw [joinWith_map_cons (lit "\n\n") F.tabText F.docTail rfl (fun x xs => by simp [ColForm.docTail, F.tabTextP_append, lit]),
      ColForm.docText, F.tabTextP_append]

theorem ColForm.renderTables_ok (F : ColForm σ) (db : Db) (ts : List (FTab σ)) (hdb : db.tables = ts.map F.mkTable)
    (hok : ∀ t ∈ ts, F.specOK db.allowProps t)
    (hinl : ∀ ti t, ts[ti]? = some t → ∀ ci s, t.cols[ci]? = some s →
      (Dbml.inlineRefsOfColumn db ti ci).mapM (Dbml.renderInlineRef db) = .ok ((F.irefs s).map IRefT.text)) :
    (List.range db.tables.length).mapM (Dbml.renderTable db) = .ok (ts.map F.tabText) := by
  unfold Dbml.renderTable
  rw [hdb]
  exact range_mapM_form_pos F.mkTable "table position" F.tabText ts (fun i t => Dbml.renderTableBody db i t) fun i t ht =>
    have h := hok t (List.mem_of_getElem? ht)
    F.renderTableBody_ok db i t.name t.cols t.comment t.note (hinl i t ht) h.2.1 h.2.2.1 h.2.2.2.1 h.2.2.2.2.1

theorem ColForm.renderDb_tables (F : ColForm σ) (ap : Bool) (ts : List (FTab σ)) (hok : ∀ t ∈ ts, F.specOK ap t)
    (hno : ∀ t ∈ ts, ∀ s ∈ t.cols, F.irefs s = []) :
    Dbml.renderDb { tables := ts.map F.mkTable, allowProps := ap } = .ok (F.docText ts) := by
  have htabs := F.renderTables_ok { tables := ts.map F.mkTable, allowProps := ap } ts rfl hok
    fun ti t ht => F.inl_plain _ (by simp) ti t.cols (hno t (List.mem_of_getElem? ht))
  unfold Dbml.renderDb Dbml.renderProjectList
  simp only [bind, Except.bind, htabs]
  simp [pure, Except.pure, F.joinWith_tables]

/-- **C02 for whole documents of tables whose columns are written in any form that is read back**: any positive
    number of tables with pairwise different names, each with any positive number of columns of the form, none declaring
    an inline reference (`hno`), is rendered to DBML and parsed back to exactly the same database. -/
theorem form_tables_roundtrip (F : ColForm σ) (ap : Bool) (ts : List (FTab σ)) (hok : ∀ t ∈ ts, F.specOK ap t)
    (hne : ts ≠ []) (hd : ts.Pairwise (fun a b => a.name ≠ b.name))
    (hno : ∀ t ∈ ts, ∀ s ∈ t.cols, F.irefs s = []) :
    ∃ text, Dbml.renderDb { tables := ts.map F.mkTable, allowProps := ap } = .ok text
      ∧ Build.parse ap text = .ok { tables := ts.map F.mkTable, allowProps := ap }  := by
  refine roundtrip_of ap _ (F.docText ts) _ (F.renderDb_tables ap ts hok hno) (F.parseDoc_tables ap ts hok hne) ?_
    (F.build_tables ap ts hd (fun t ht => (hok t ht).2.1) hno (fun t ht => (hok t ht).2.2.2.2.2.2))
  cases ts with
  | nil => rfl
  | cons t r =>
    rw [ColForm.docText, F.tabTextP_append, ← F.tableE_text ap t (hok t (by simp))]
    exact EForm.text_removeBom _ _

def FTab.one (tn : Str) (cs : List σ) : FTab σ := { name := tn, cols := cs }

theorem ColForm.tableTextP_nil (F : ColForm σ) (tn : Str) (cs : List σ) (post : Str) :
    F.tableTextP tn cs [] post = F.tableText tn cs ++ post := by
  simp [ColForm.tableTextP, ColForm.tableText, noteBlock]

theorem ColForm.docText_one (F : ColForm σ) (tn : Str) (cs : List σ) : F.docText [FTab.one tn cs] = F.tableText tn cs := by
  simp [ColForm.docText, ColForm.docTail, ColForm.tabTextP, FTab.one, commentText, ColForm.tableTextP_nil]

theorem ColForm.specOK_one (F : ColForm σ) (ap : Bool) (tn : Str) (cs : List σ) (htn : NameOK tn) (hcs : F.allOK ap cs)
    (hne : cs ≠ []) : ∀ t ∈ [FTab.one tn cs], F.specOK ap t := by
  intro t ht
  rw [List.mem_singleton.mp ht]
  exact ⟨htn, hcs, hne, trivial, tnoteOK_nil⟩

theorem ColForm.tableRule_ok (F : ColForm σ) (props : Bool) (c : Cur) (tn : Str) (cs : List σ)
    (hc : c.rest = F.tableText tn cs) (hp : c.pastEnd = false) (hprev : c.prev = none)
    (htn : NameOK tn) (hcs : F.allOK props cs) (hne : cs ≠ []) :
    ∃ c', tableRule props c = .ok (F.tableBp tn cs) c' ∧ c'.rest = [] ∧ c'.pastEnd = true := by
  obtain ⟨q1, q2⟩ := F.quiet_tableTextP tn cs [] [] c (by rw [hc, F.tableTextP_nil, List.append_nil])
  exact F.tableRule_okP props c c tn cs [] [] (fun c' => c'.rest = [] ∧ c'.pastEnd = true) [] (cBefore_stays c ⟨q1, q2⟩)
    (by rw [hc, F.tableTextP_nil, List.append_nil]) hp (by rw [hprev]; intro p h; cases h) htn hcs hne tnoteOK_nil
    run_endRule_eof.at

theorem ColForm.parseDoc_table (F : ColForm σ) (ap : Bool) (tn : Str) (cs : List σ) (htn : NameOK tn)
    (hcs : F.allOK ap cs) (hne : cs ≠ []) :
    ∃ c', parseDoc ap (F.tableText tn cs) = .ok [Bp.Elem.table (F.tableBp tn cs)] c' := by
  rw [← F.docText_one]
  exact F.parseDoc_tables ap [FTab.one tn cs] (F.specOK_one ap tn cs htn hcs hne) (by simp)

theorem ColForm.build_table (F : ColForm σ) (ap : Bool) (tn : Str) (cs : List σ) (hcs : F.allOK ap cs)
    (hno : ∀ s ∈ cs, F.irefs s = []) :
    buildDatabase ap [Bp.Elem.table (F.tableBp tn cs)] = .ok { tables := [F.table tn cs], allowProps := ap } :=
  F.build_tables ap [FTab.one tn cs] (by simp) (by simpa [FTab.one] using hcs) (by simpa [FTab.one] using hno)
    (by simp [FTab.one]; rfl)

theorem ColForm.renderDb_table (F : ColForm σ) (ap : Bool) (tn : Str) (cs : List σ) (hcs : F.allOK ap cs) (hne : cs ≠ [])
    (hno : ∀ s ∈ cs, F.irefs s = []) :
    Dbml.renderDb { tables := [F.table tn cs], allowProps := ap } = .ok (F.tableText tn cs) := by
  have ht := F.renderTableBody_ok { tables := [F.table tn cs], allowProps := ap } 0 tn cs none []
    (F.inl_plain _ (by simp) 0 cs hno) hcs hne trivial (fun _ h => by cases h)
  have ht' : Dbml.renderTable { tables := [F.table tn cs], allowProps := ap } 0 = .ok (F.tableText tn cs) := by
    unfold Dbml.renderTable
    exact ht
  unfold Dbml.renderDb Dbml.renderProjectList
  simp [bind, Except.bind, pure, Except.pure, joinWith, ht', List.range_succ]

/-- **C02 for one table whose columns are written in any form that is read back** and declare no inline reference -/
theorem form_roundtrip (F : ColForm σ) (ap : Bool) (tn : Str) (cs : List σ)
    (htn : NameOK tn) (hcs : F.allOK ap cs) (hne : cs ≠ []) (hno : ∀ s ∈ cs, F.irefs s = []) :
    ∃ text, Dbml.renderDb { tables := [F.table tn cs], allowProps := ap } = .ok text
      ∧ Build.parse ap text = .ok { tables := [F.table tn cs], allowProps := ap } :=
  form_tables_roundtrip F ap [FTab.one tn cs] (F.specOK_one ap tn cs htn hcs hne) (by simp) (by simp) (by simpa [FTab.one] using hno)

end C02
end PyDBML
