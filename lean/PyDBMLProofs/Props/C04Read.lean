/-
C04 — "every relationship becomes exactly one correctly directed FOREIGN KEY", as an inversion: the READER of
`ALTER TABLE … ADD … FOREIGN KEY …` statements (`PyDBMLModel/SqlRead.lean`, text only) recovers from the statement
written for a standalone reference the key holder, both column lists in order, the referenced table, the constraint
name and the action clauses (`read_render_fk`).
-/
import PyDBMLModel
import PyDBMLProofs.Props.C03Read
namespace PyDBML
namespace C04
open Sql C03

theorem readQual_ok (sch n X : Str) (hs : '"' ∉ sch) (hn : '"' ∉ n) (hX : X.head? = some ' ') :
    readQual (qualName sch n ++ X) = some (qualName sch n, X) := by
  match X, hX with
  | _ :: X, rfl =>
    unfold qualName
    split
    · rw [show ('"' :: n ++ ['"']) ++ ' ' :: X = '"' :: (n ++ '"' :: (' ' :: X)) by simp, readQual, readQuoted_ok n _ hn]
      rfl
    · rw [lit_eq (s := "\".\"") rfl, show ('"' :: sch ++ ['"', '.', '"'] ++ n ++ ['"']) ++ ' ' :: X
          = '"' :: (sch ++ '"' :: ('.' :: '"' :: (n ++ '"' :: (' ' :: X)))) by simp, readQual, readQuoted_ok sch _ hs]
      simp only []
      rw [readQuoted_ok n _ hn]
      simp

def namesAt (t : Table) (cols : List Nat) : List Str := cols.map fun i => ((t.columns[i]?).map (·.name)).getD []

theorem colNames_ok (t : Table) (cols : List Nat) (h : ∀ i ∈ cols, i < t.columns.length) :
    colNames t cols = .ok (joinWith (lit ", ") ((namesAt t cols).map quoteN)) := by
  have hm : (cols.mapM fun i => do
      let c ← getD? t.columns i "reference column position"
      pure ('"' :: c.name ++ ['"']))
      = .ok (cols.map fun i => quoteN (((t.columns[i]?).map (·.name)).getD [])) :=
    mapM_ok_map_mem _ _ _ fun i hi => by
      simp [getD?, List.getElem?_eq_getElem (h i hi), bind, Except.bind, pure, Except.pure, quoteN]
  simp only [bind, Except.bind, pure, Except.pure] at hm
  simp only [colNames, namesAt, hm, bind, Except.bind, pure, Except.pure, List.map_map, Function.comp_def]

/-- the constraint name as the statement shows it -/
def constraintOf (r : Ref) : Option Str := if truthy r.name then r.name else none

theorem readConstraint_opt (nm : Option Str) (X : Str) (hq : ∀ n, nm = some n → '"' ∉ n) (hX : readConstraint X = (none, X)) :
    readConstraint ((if truthy nm then lit "CONSTRAINT \"" ++ nm.getD [] ++ lit "\" " else []) ++ X)
      = (if truthy nm then nm else none, X) := by
  match nm, hq with
  | none, _ => exact hX
  | some [], _ => exact hX
  | some (a :: b), hq =>
    -- the renderer writes the opening quote with the keyword and the closing one with the blank
    have e : lit "CONSTRAINT \"" = lit "CONSTRAINT " ++ ['"'] := by rw [lit_eq rfl, lit_eq rfl]; rfl
    have hq' := hq _ rfl
    simp only [truthy, ↓reduceIte, Option.getD_some]
    generalize a :: b = n at hq' ⊢
    simp only [e, lit_eq (s := "\" ") rfl, List.append_assoc, List.cons_append, List.nil_append]
    rw [readConstraint, stripKw_append]
    dsimp only
    rw [readQuoted_ok _ _ hq']
    rfl

theorem readConstraint_ok (r : Ref) (X : Str) (hq : ∀ n, r.name = some n → '"' ∉ n) :
    readConstraint (constraintText r ++ (lit "FOREIGN KEY (" ++ X)) = (constraintOf r, lit "FOREIGN KEY (" ++ X) := by
  refine readConstraint_opt r.name _ hq ?_
  rw [readConstraint, show stripKw (lit "CONSTRAINT ") (lit "FOREIGN KEY (" ++ X) = (false, lit "FOREIGN KEY (" ++ X) by
    rw [lit_eq (s := "CONSTRAINT ") rfl, lit_eq (s := "FOREIGN KEY (") rfl]; rfl]

/-- the statement the model writes for a standalone reference that is not many-to-many -/
def fkLine (r : Ref) (st rt : Table) : Str :=
  lit "ALTER TABLE " ++ qualName st.schema st.name ++ lit " ADD " ++ constraintText r ++ lit "FOREIGN KEY ("
    ++ joinWith (lit ", ") ((namesAt st (refSides r).1.2).map quoteN) ++ [')'] ++ lit " REFERENCES "
    ++ qualName rt.schema rt.name ++ lit " (" ++ joinWith (lit ", ") ((namesAt rt (refSides r).2.2).map quoteN)
    ++ [')'] ++ onClauses r ++ [';']

theorem lit_references : lit ") REFERENCES " = ')' :: lit " REFERENCES " := by rw [lit_eq rfl, lit_eq rfl]

theorem renderRefTop_line (db : Db) (r : Ref) (hk : r.kind ≠ .manyToMany) (hi : r.inline = false) (st rt : Table)
    (hst : db.tables[(refSides r).1.1]? = some st) (hrt : db.tables[(refSides r).2.1]? = some rt)
    (hsc : ∀ i ∈ (refSides r).1.2, i < st.columns.length) (hrc : ∀ i ∈ (refSides r).2.2, i < rt.columns.length)
    (hcm : r.comment = none) : renderRefTop db r = .ok (fkLine r st rt) := by
  unfold renderRefTop renderNotInlineRef
  simp only [hk, hi, ↓reduceIte, Bool.false_eq_true]
  rcases hrs : refSides r with ⟨⟨a, b⟩, ⟨c, d⟩⟩
  simp only [hrs] at hst hrt hsc hrc
  simp only [getD?, hst, hrt, colNames_ok st b hsc, colNames_ok rt d hrc, bind, Except.bind, pure, Except.pure, fkLine,
    notInlineParts, hrs, Sql.optComment, hcm, lit_references, List.nil_append, List.append_assoc, List.cons_append]

def fkDescOf (r : Ref) (st rt : Table) : FkDesc :=
  { src := qualName st.schema st.name, constraint := constraintOf r, srcCols := namesAt st (refSides r).1.2,
    dst := qualName rt.schema rt.name, dstCols := namesAt rt (refSides r).2.2, actions := onClauses r }

theorem readFk_fkLine (r : Ref) (st rt : Table) (hne1 : (refSides r).1.2 ≠ []) (hne2 : (refSides r).2.2 ≠ [])
    (hqt : '"' ∉ st.schema ∧ '"' ∉ st.name ∧ '"' ∉ rt.schema ∧ '"' ∉ rt.name)
    (hqc : (∀ n ∈ namesAt st (refSides r).1.2, '"' ∉ n) ∧ (∀ n ∈ namesAt rt (refSides r).2.2, '"' ∉ n))
    (hqn : ∀ n, r.name = some n → '"' ∉ n) :
    readFk (fkLine r st rt) = some (fkDescOf r st rt) := by
  unfold readFk fkLine
  simp only [List.append_assoc, List.cons_append, List.nil_append, stripKw_append,
    readQual_ok _ _ (lit " ADD " ++ _) hqt.1 hqt.2.1 rfl, readConstraint_ok r _ hqn,
    readNamesR_text _ _ (by simpa [namesAt] using hne1) hqc.1,
    readQual_ok _ _ (lit " (" ++ _) hqt.2.2.1 hqt.2.2.2 rfl,
    readNamesR_text _ _ (by simpa [namesAt] using hne2) hqc.2]
  simp [fkDescOf]

/-- **the reader inverts the renderer of standalone references** that are not many-to-many, between existing columns
    of existing tables (at least one a side, no double quote in a name, no comment): the table altered is the one at the
    SOURCE side of `refSides` (for `>` and `-` the left-hand table, for `<` the right-hand one: `C04.source_is_keyHolder`, C04.lean),
    then its columns by name in the order of the reference, the referenced table and its columns in order, `CONSTRAINT`
    exactly when the reference has a non-empty name, and the action clauses of `onClauses`. -/
theorem read_render_fk (db : Db) (r : Ref) (hk : r.kind ≠ .manyToMany) (hi : r.inline = false) (st rt : Table)
    (hst : db.tables[(refSides r).1.1]? = some st) (hrt : db.tables[(refSides r).2.1]? = some rt)
    (hsc : ∀ i ∈ (refSides r).1.2, i < st.columns.length) (hrc : ∀ i ∈ (refSides r).2.2, i < rt.columns.length)
    (hcm : r.comment = none) (hne1 : (refSides r).1.2 ≠ []) (hne2 : (refSides r).2.2 ≠ [])
    (hqt : '"' ∉ st.schema ∧ '"' ∉ st.name ∧ '"' ∉ rt.schema ∧ '"' ∉ rt.name)
    (hqc : (∀ n ∈ namesAt st (refSides r).1.2, '"' ∉ n) ∧ (∀ n ∈ namesAt rt (refSides r).2.2, '"' ∉ n))
    (hqn : ∀ n, r.name = some n → '"' ∉ n) :
    ∃ line, renderRefTop db r = .ok line ∧ readFk line = some (fkDescOf r st rt) :=
  ⟨_, renderRefTop_line db r hk hi st rt hst hrt hsc hrc hcm, readFk_fkLine r st rt hne1 hne2 hqt hqc hqn⟩

/-- the reader on two literal statements: with and without schema, constraint name and action -/
example :
    readFk (lit "ALTER TABLE \"s\".\"orders\" ADD CONSTRAINT \"fk 1\" FOREIGN KEY (\"user id\", \"k\") REFERENCES \"users\" (\"id\", \"k\") ON DELETE CASCADE;")
      = some ⟨lit "\"s\".\"orders\"", some (lit "fk 1"), [lit "user id", lit "k"], lit "\"users\"", [lit "id", lit "k"], lit " ON DELETE CASCADE"⟩
    ∧ readFk (lit "ALTER TABLE \"a\" ADD FOREIGN KEY (\"x\") REFERENCES \"b\" (\"y\");")
      = some ⟨lit "\"a\"", none, [lit "x"], lit "\"b\"", [lit "y"], []⟩ := by
  repeat rw [lit_eq rfl]
  decide +kernel

end C04
end PyDBML
