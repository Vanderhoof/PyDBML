/-
The fuel of `many` never decides.  pyparsing's `ZeroOrMore` has no bound; the model gives `many` a fuel of
`rest.length + 2`.  Every parser of the grammar only moves forward (`Adv`), an iteration that `many` continues after
strictly decreases a measure bounded by `rest.length + 1`, hence any two amounts of fuel above it give the same
result: the bound is a device for Lean's termination checker, not a behaviour of the model.
-/
import PyDBMLProofs.Hoare
import PyDBMLProofs.Cursor
namespace PyDBML
namespace Fuel
open Lex Grammar Hoare

def Mono (c c' : Cur) : Prop := c'.rest <:+ c.rest ∧ (c.pastEnd = true → c'.pastEnd = true)

theorem Mono.refl (c : Cur) : Mono c c := ⟨List.suffix_refl _, id⟩

theorem Mono.trans {a b c : Cur} (h1 : Mono a b) (h2 : Mono b c) : Mono a c :=
  ⟨h2.1.trans h1.1, fun h => h2.2 (h1.2 h)⟩

theorem Mono.skipWs {c d : Cur} (h : Mono c d) : Mono c (skipWs d) := h.trans ⟨C07.skipWs_suffix d, id⟩

theorem Mono.advance {c d : Cur} (h : Mono c d) (n : Nat) : Mono c (advance d n) :=
  h.trans ⟨C07.advance_suffix d n, fun hp => (C13.advance_pastEnd d n).trans hp⟩

theorem Mono.curAfter {c d : Cur} (h : Mono c d) (r : Str) : Mono c (curAfter d r) := h.advance _

theorem mono_skip_curAfter (c : Cur) (r : Str) : Mono c (curAfter (skipWs c) r) :=
  (Mono.refl c).skipWs.curAfter r

class Adv {α : Type} (p : P α) : Prop where
  out : ∀ c a c', p c = .ok a c' → Mono c c'

variable {α β : Type}

theorem adv_iff {p : P α} : Adv p ↔ Ensures p (fun c _ c' => Mono c c') (fun _ => True) :=
  ⟨fun h => ensures_iff.mpr ⟨h.out, fun _ _ _ => trivial⟩, fun h => ⟨(ensures_iff.mp h).1⟩⟩

instance adv_pure (a : α) : Adv (pure a : P α) := adv_iff.mpr (ensures_pure a Mono.refl)
instance adv_ppure (a : α) : Adv (ppure a : P α) := adv_pure a
instance adv_pfail : Adv (pfail : P α) := adv_iff.mpr ensures_pfail
instance adv_pexn (e : PErr) : Adv (pexn e : P α) := adv_iff.mpr (ensures_pexn trivial)

-- theorem and instance side by side, as for `Raises` (Hoare.lean); the rule walk resolves through the instances
theorem adv_bind (p : P α) (f : α → P β) (hp : Adv p) (hf : ∀ a, Adv (f a)) : Adv (p >>= f) :=
  adv_iff.mpr (ensures_bind (adv_iff.mp hp) fun _ a c1 h =>
    (adv_iff.mp (hf a) c1).imp (fun _ _ h2 => h.trans h2) fun _ he => he)

instance adv_bind_inst (p : P α) (f : α → P β) [hp : Adv p] [hf : ∀ a, Adv (f a)] : Adv (p >>= f) :=
  adv_bind p f hp hf

theorem adv_alt (p q : P α) (hp : Adv p) (hq : Adv q) : Adv (alt p q) :=
  adv_iff.mpr (ensures_alt (adv_iff.mp hp) (adv_iff.mp hq))

instance adv_alt_inst (p q : P α) [hp : Adv p] [hq : Adv q] : Adv (alt p q) := adv_alt p q hp hq

theorem adv_cut (p : P α) (hp : Adv p) : Adv (cut p) := adv_iff.mpr (ensures_cut (adv_iff.mp hp))

instance adv_cut_inst (p : P α) [hp : Adv p] : Adv (cut p) := adv_cut p hp

theorem adv_opt (p : P α) (hp : Adv p) : Adv (opt p) := adv_iff.mpr (ensures_opt (adv_iff.mp hp) Mono.refl)

instance adv_opt_inst (p : P α) [hp : Adv p] : Adv (opt p) := adv_opt p hp

theorem adv_many (p : P α) (hp : Adv p) (n : Nat) : Adv (many p n) :=
  adv_iff.mpr (ensures_many (K := fun c _ c' => Mono c c') (adv_iff.mp hp) Mono.refl (fun _ _ _ _ _ h1 h2 => h1.trans h2) n)

instance adv_many_inst (p : P α) [hp : Adv p] (n : Nat) : Adv (many p n) := adv_many p hp n

theorem adv_manyF (p : P α) (hp : Adv p) : Adv (manyF p) :=
  ⟨fun c b c' h => (adv_many p hp (fuelOf c)).out c b c' h⟩

instance adv_manyF_inst (p : P α) [hp : Adv p] : Adv (manyF p) := adv_manyF p hp

instance adv_many1_inst (p : P α) [hp : Adv p] : Adv (many1 p) := by unfold many1; infer_instance

theorem adv_orLongest (p q : P α) (hp : Adv p) (hq : Adv q) : Adv (orLongest p q) :=
  adv_iff.mpr (ensures_orLongest (adv_iff.mp hp) (adv_iff.mp hq))

instance adv_orLongest_inst (p q : P α) [hp : Adv p] [hq : Adv q] : Adv (orLongest p q) := adv_orLongest p q hp hq

theorem adv_skipWs (p : P α) (hp : Adv p) : Adv (fun c => p (skipWs c)) :=
  ⟨fun c _ _ h => (Mono.refl c).skipWs.trans (hp.out _ _ _ h)⟩

instance adv_skipWs_inst (p : P α) [hp : Adv p] : Adv (fun c => p (skipWs c)) := adv_skipWs p hp

instance adv_ite (b : Prop) [Decidable b] (p q : P α) [hp : Adv p] [hq : Adv q] : Adv (if b then p else q) := by
  split <;> assumption

/- The order matters for the cost: asked to unify `skipWs _` (or `c`) with `advance _ s.length`, the unifier
   evaluates `String.length`; with `advance` tried first that question is never put. -/
macro "adv_prim" : tactic =>
  `(tactic| (constructor; intro c a c' h; (try dsimp only at h); (repeat' split at h) <;> cases h <;>
      repeat (first | apply Mono.advance | apply Mono.curAfter | apply Mono.skipWs | exact Mono.refl _)))

instance (s : Str) : Adv (litRaw s) := by unfold litRaw; adv_prim
instance (s : String) : Adv (sym s) := by unfold sym litRaw; adv_prim
instance (s : String) : Adv (clit s) := by unfold clit; adv_prim
instance (s : String) : Adv (ckw s) := by unfold ckw; adv_prim
instance (p : Char → Bool) : Adv (wordRaw p) := by unfold wordRaw; adv_prim
instance (p : Char → Bool) : Adv (word p) := by unfold word wordRaw; adv_prim
instance : Adv wordStart := by unfold wordStart; adv_prim
instance : Adv wordEnd := by unfold wordEnd; adv_prim
instance : Adv name := by unfold name; adv_prim
instance : Adv stringLiteral := by unfold stringLiteral; adv_prim
instance : Adv expressionLiteral := by unfold expressionLiteral; adv_prim
instance : Adv numberLiteral := by unfold numberLiteral; adv_prim
instance : Adv relation := by unfold relation; adv_prim
instance : Adv hexColor := by unfold hexColor; adv_prim
instance : Adv comment := by unfold comment; adv_prim
instance : Adv white := by unfold white; adv_prim

instance : Adv stringEnd := by
  constructor
  intro c a c' h
  unfold stringEnd at h
  dsimp only at h
  split at h <;> cases h
  exact ⟨C07.skipWs_suffix c, fun _ => rfl⟩

instance : Adv lineEnd := by
  constructor
  intro c a c' h
  unfold lineEnd at h
  dsimp only at h
  split at h
  · cases h
  · split at h <;> cases h
    · rename_i r heq
      exact ⟨(List.suffix_cons _ r).trans (heq ▸ C07.skipWs_suffix c), id⟩
    · exact ⟨C07.skipWs_suffix c, fun _ => rfl⟩

/-- what a successful iteration that `many` continues after must decrease -/
def mu (c : Cur) : Nat := c.rest.length + (if c.pastEnd then 0 else 1)

theorem mono_mu {c c' : Cur} (h : Mono c c') : mu c' ≤ mu c := by
  unfold mu
  have hl : c'.rest.length ≤ c.rest.length := h.1.length_le
  cases hp : c.pastEnd <;> cases hp' : c'.pastEnd <;> simp
  · omega
  · omega
  · have := h.2 hp; rw [hp'] at this; cases this
  · omega

theorem progress_mu {c c' : Cur} (h : Mono c c')
    (hprog : (c'.rest.length = c.rest.length && c'.pastEnd = c.pastEnd) = false) : mu c' < mu c := by
  unfold mu
  have hl : c'.rest.length ≤ c.rest.length := h.1.length_le
  cases hp : c.pastEnd <;> cases hp' : c'.pastEnd <;> simp [hp, hp'] at hprog ⊢
  · omega
  · omega
  · have := h.2 hp; rw [hp'] at this; cases this
  · omega

theorem many_fuel_irrelevant (p : P α) [hp : Adv p] :
    ∀ (n m : Nat) (c : Cur), mu c < n → mu c < m → many p n c = many p m c := by
  intro n
  induction n with
  | zero => intro m c h; omega
  | succ k ih =>
    intro m c hn hm
    obtain ⟨j, rfl⟩ : ∃ j, m = j + 1 := ⟨m - 1, by omega⟩
    simp only [many]
    cases hpc : p c with
    | ok a c1 =>
      simp only
      have hmono := hp.out _ _ _ hpc
      cases hprog : (c1.rest.length = c.rest.length && c1.pastEnd = c.pastEnd) with
      | true => simp only [↓reduceIte]
      | false =>
        have hlt := progress_mu hmono hprog
        simp only [Bool.false_eq_true, ↓reduceIte]
        rw [ih j c1 (by omega) (by omega)]
    | fail => rfl
    | fatal => rfl
    | exn e => rfl

theorem mu_lt_fuelOf (c : Cur) : mu c < fuelOf c := by
  unfold mu fuelOf; split <;> omega

theorem manyF_any_fuel (p : P α) [Adv p] (c : Cur) (n : Nat) (h : mu c < n) : manyF p c = many p n c :=
  many_fuel_irrelevant p (fuelOf c) n c (mu_lt_fuelOf c) h

macro "adv_tac" : tactic => `(tactic| repeat' (first
  | infer_instance
  | apply adv_bind
  | apply adv_cut
  | apply adv_alt
  | apply adv_opt
  | apply adv_manyF
  | apply adv_orLongest
  | apply adv_skipWs
  | intro _
  | split))

instance : Adv skipNl := by unfold skipNl; adv_tac
instance : Adv cBefore := by unfold cBefore; adv_tac
instance : Adv cOpt := by unfold cOpt; adv_tac
instance : Adv endRule := by unfold endRule; adv_tac
instance : Adv noteRule := by unfold noteRule; adv_tac
instance : Adv noteObject := by unfold noteObject; adv_tac
instance : Adv noteElement := by unfold noteElement; adv_tac

theorem adv_expr (fuel : Nat) : Adv (factor fuel) ∧ Adv (expression fuel) := by
  induction fuel with
  | zero => exact ⟨by unfold factor; infer_instance, by unfold expression; infer_instance⟩
  | succ n ih =>
    have hf : Adv (factor (n + 1)) := by
      have := ih.2
      unfold factor; adv_tac
    have := ih.1
    exact ⟨hf, expression_succ n ▸ inferInstance⟩

instance (fuel : Nat) : Adv (factor fuel) := (adv_expr fuel).1
instance (fuel : Nat) : Adv (expression fuel) := (adv_expr fuel).2

instance : Adv typeArgs :=
  adv_iff.mpr (ensures_typeArgs Mono.trans (fun _ => adv_iff.mp inferInstance) (fun _ => adv_iff.mp inferInstance))

instance : Adv nameRaw := adv_iff.mpr (ensures_nameRaw (adv_iff.mp inferInstance))

instance : Adv whites := by unfold whites; adv_prim
instance : Adv columnType := by unfold columnType; adv_tac
instance : Adv colName := by unfold colName; adv_tac
instance : Adv refInline := by unfold refInline; adv_tac
instance : Adv onOption := by unfold onOption; adv_tac
instance : Adv refSetting := by unfold refSetting; adv_tac
instance : Adv refSettings := by unfold refSettings; adv_tac
instance : Adv compositeName := by unfold compositeName; adv_tac
instance : Adv nameOrComposite := by unfold nameOrComposite; adv_tac
instance : Adv refCols := by unfold refCols; adv_tac
instance (nm : Option Str) (before : List Str) : Adv (refBody nm before) := by unfold refBody; adv_tac
instance : Adv refShort := by unfold refShort; adv_tac
instance : Adv refLong := by unfold refLong; adv_tac
instance : Adv refRule := by unfold refRule; adv_tac
instance : Adv booleanLiteral := by unfold booleanLiteral; adv_tac
instance (t : Str) : Adv (numberValue t) := by unfold numberValue; adv_tac
instance : Adv defaultRule := by unfold defaultRule; adv_tac
instance : Adv prop := by unfold prop; adv_tac
instance : Adv columnSetting := by unfold columnSetting; adv_tac
instance : Adv columnSettingWithProperty := by unfold columnSettingWithProperty; adv_tac
instance : Adv columnSettings := by unfold columnSettings; adv_tac
instance : Adv columnSettingsWithProperties := by unfold columnSettingsWithProperties; adv_tac
instance (props : Bool) : Adv (tableColumn props) := by unfold tableColumn; adv_tac
instance : Adv indexType := by unfold indexType; adv_tac
instance : Adv indexSetting := by unfold indexSetting; adv_tac
instance : Adv indexSettings := by unfold indexSettings; adv_tac
instance : Adv subject := by unfold subject; adv_tac
instance : Adv singleIndex := by unfold singleIndex; adv_tac
instance : Adv compositeIndex := by unfold compositeIndex; adv_tac
instance : Adv indexRule := by unfold indexRule; adv_tac
instance : Adv indexesRule := by unfold indexesRule; adv_tac
instance : Adv aliasRule := by unfold aliasRule; adv_tac
instance : Adv headerColor := by unfold headerColor; adv_tac
instance : Adv tableSetting := by unfold tableSetting; adv_tac
instance : Adv tableSettings := by unfold tableSettings; adv_tac
instance (props : Bool) : Adv (tableElement props) := by unfold tableElement; adv_tac
instance : Adv tableName := by unfold tableName; adv_tac
instance (props : Bool) : Adv (tableRule props) := by
  unfold tableRule
  adv_tac
instance : Adv enumSettings := by unfold enumSettings; adv_tac
instance : Adv enumItem := by unfold enumItem; adv_tac
instance : Adv enumName := by unfold enumName; adv_tac
instance : Adv enumRule := by unfold enumRule; adv_tac
instance : Adv groupTableName := by unfold groupTableName; adv_tac
instance : Adv tgElement := by unfold tgElement; adv_tac
instance : Adv tgSetting := by unfold tgSetting; adv_tac
instance : Adv tgSettings := by unfold tgSettings; adv_tac
instance : Adv tableGroupRule := by unfold tableGroupRule; adv_tac
instance : Adv projectField := by unfold projectField; adv_tac
instance : Adv projectElement := by unfold projectElement; adv_tac
instance : Adv projectRule := by unfold projectRule; adv_tac
instance : Adv stickyNoteRule := by unfold stickyNoteRule; adv_tac
instance (props : Bool) : Adv (element props) := by unfold element; adv_tac

/-- the element loop of the document is not cut short by its fuel: its result is the one an unbounded repetition
    (pyparsing's `ZeroOrMore`) gives -/
theorem document_fuel_irrelevant (props : Bool) (c : Cur) (n : Nat) (h : mu c < n) :
    manyF (element props) c = many (element props) n c :=
  manyF_any_fuel (element props) c n h

end Fuel
end PyDBML
