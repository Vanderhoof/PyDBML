/-
`sep.join(parts)` (`joinWith`, `joinNL`) taken apart, mostly through the closed form `joinWith_eq_flatMap`.
After that, the other list and text facts that both the DBML and the SQL side use.
-/
import PyDBMLModel
import PyDBMLProofs.Lit
namespace PyDBML

theorem joinWith_cons (sep a : Str) (l : List Str) (h : l ≠ []) : joinWith sep (a :: l) = a ++ sep ++ joinWith sep l := by
  cases l with
  | nil => exact absurd rfl h
  | cons _ _ => rfl

theorem joinWith_eq_flatMap (sep a : Str) (l : List Str) : joinWith sep (a :: l) = a ++ l.flatMap (sep ++ ·) := by
  induction l generalizing a with
  | nil => simp [joinWith]
  | cons b r ih => rw [joinWith_cons _ _ _ (by simp), ih b]; simp

theorem joinNL_eq_joinWith (l : List Str) : joinNL l = joinWith ['\n'] l := by
  induction l with
  | nil => rfl
  | cons a r ih => cases r with
    | nil => rfl
    | cons b r2 => rw [joinWith_cons _ _ _ (by simp), ← ih]; simp [joinNL]

theorem joinWith_append (sep : Str) (A B : List Str) (hA : A ≠ []) (hB : B ≠ []) :
    joinWith sep (A ++ B) = joinWith sep A ++ sep ++ joinWith sep B := by
  obtain ⟨a, A, rfl⟩ := List.exists_cons_of_ne_nil hA
  obtain ⟨b, B, rfl⟩ := List.exists_cons_of_ne_nil hB
  simp [joinWith_eq_flatMap]

theorem joinNL_cons (l : Str) (M : List Str) (hM : M ≠ []) : joinNL (l :: M) = l ++ '\n' :: joinNL M := by
  cases M with
  | nil => exact absurd rfl hM
  | cons _ _ => rfl

theorem joinNL_append (A B : List Str) (hA : A ≠ []) (hB : B ≠ []) : joinNL (A ++ B) = joinNL A ++ '\n' :: joinNL B := by
  simp [joinNL_eq_joinWith, joinWith_append _ A B hA hB]

theorem joinNL_eq_flatMap (a : Str) (M : List Str) : joinNL (a :: M) = a ++ M.flatMap ('\n' :: ·) := by
  rw [joinNL_eq_joinWith, joinWith_eq_flatMap]; rfl

theorem joinNL_three (H : Str) (I : List Str) (F : Str) (hI : I ≠ []) :
    joinNL (H :: (I ++ [F])) = H ++ '\n' :: (joinNL I ++ '\n' :: F) := by
  rw [joinNL_cons _ _ (by simp), joinNL_append I [F] hI (by simp)]
  rfl

theorem lit_nn : lit "\n\n" = ['\n', '\n'] := lit_eq rfl

theorem joinNL_statement (H : Str) (M : List Str) (F : Str) (X : List Str) (hM : M ≠ []) :
    joinNL (H :: joinNL M :: F :: X.map ('\n' :: ·)) = joinNL (H :: (M ++ [F])) ++ X.flatMap (lit "\n\n" ++ ·) := by
  rw [joinNL_three H M F hM]
  -- lines that begin with a line feed stand behind an empty line
  simp [joinNL_eq_flatMap, List.flatMap_map, lit_nn]

theorem forall_mem_joinWith {P : Char → Prop} {sep : Str} (hsep : ∀ c ∈ sep, P c) :
    ∀ (l : List Str), (∀ x ∈ l, ∀ c ∈ x, P c) → ∀ c ∈ joinWith sep l, P c
  | [], _ => by simp [joinWith]
  | a :: l, h => by
    rw [joinWith_eq_flatMap]
    simp only [List.mem_append, List.mem_flatMap]
    rintro c (hc | ⟨x, hx, hc | hc⟩)
    · exact h a (by simp) c hc
    · exact hsep c hc
    · exact h x (by simp [hx]) c hc

/-- the texts of `x :: xs` joined, where `tail` writes the separator and the text of each further item -/
theorem joinWith_map_cons {α} (sep : Str) (text : α → Str) (tail : List α → Str) (h0 : tail [] = [])
    (hc : ∀ x xs, tail (x :: xs) = sep ++ (text x ++ tail xs)) (x : α) (xs : List α) :
    joinWith sep ((x :: xs).map text) = text x ++ tail xs := by
  rw [List.map_cons, joinWith_eq_flatMap]
  congr 1
  induction xs with
  | nil => simp [h0]
  | cons y ys ih => simp [hc, ih]

namespace C02

theorem flatMap_nl : ∀ (ls : List Str), ls ≠ [] → (ls.flatMap fun l => l ++ ['\n']) = joinNL ls ++ ['\n']
  | [l], _ => by simp [joinNL]
  | l :: l2 :: r, _ => by rw [List.flatMap_cons, flatMap_nl (l2 :: r) (by simp)]; simp [joinNL]

theorem joinNL_snoc : ∀ (ls : List Str), ls ≠ [] → (∀ l ∈ ls, ∃ pre y, l = pre ++ [y] ∧ y ≠ '\n') →
    ∃ pre y, joinNL ls = pre ++ [y] ∧ y ≠ '\n'
  | [l], _, h => h l (by simp)
  | l :: l2 :: r, _, h => by
    obtain ⟨pre, y, e, hy⟩ := joinNL_snoc (l2 :: r) (by simp) fun q hq => h q (by simp [hq])
    exact ⟨l ++ '\n' :: pre, y, by rw [show joinNL (l :: l2 :: r) = l ++ '\n' :: joinNL (l2 :: r) from rfl, e]; simp, hy⟩

theorem rstrip_nl_lines (ls : List Str) (hne : ls ≠ []) (h : ∀ l ∈ ls, ∃ pre y, l = pre ++ [y] ∧ y ≠ '\n') :
    rstripSet (· = '\n') (ls.flatMap fun l => l ++ ['\n']) = joinNL ls := by
  obtain ⟨pre, y, e, hy⟩ := joinNL_snoc ls hne h
  rw [flatMap_nl ls hne, e]
  simp [rstripSet, List.dropWhile, hy]

theorem takeWhile_append_stop {α} (p : α → Bool) (l r : List α) (hl : l.all p = true)
    (hr : ∀ x, r.head? = some x → p x = false) : (l ++ r).takeWhile p = l := by
  induction l with
  | nil =>
    cases r with
    | nil => rfl
    | cons y ys => simp [hr y rfl]
  | cons x xs ih =>
    simp only [List.all_cons, Bool.and_eq_true] at hl
    simp [hl.1, ih hl.2]

theorem map_pmap_const {α β γ : Type} {P : α → Prop} (f : ∀ a, P a → β) (g : β → γ) (k : α → γ)
    (hk : ∀ a h, g (f a h) = k a) : ∀ (l : List α) (H : ∀ a ∈ l, P a), (l.pmap f H).map g = l.map k := by
  intro l
  induction l with
  | nil => intro _; rfl
  | cons a r ih => intro H; simp [List.pmap, hk, ih]

theorem flatMap_congr_mem {α β : Type} {f g : α → List β} : ∀ (l : List α), (∀ a ∈ l, f a = g a) →
    l.flatMap f = l.flatMap g := by
  intro l
  induction l with
  | nil => intro _; rfl
  | cons a r ih =>
    intro h
    rw [List.flatMap_cons, List.flatMap_cons, h a (by simp), ih (fun b hb => h b (by simp [hb]))]

theorem find_unique (n : Nat) (p : Nat → Bool) (i : Nat) (hi : i < n) (hp : p i = true)
    (hu : ∀ j, j < n → p j = true → j = i) : (List.range n).reverse.find? p = some i := by
  cases hf : (List.range n).reverse.find? p with
  | none =>
    rw [List.find?_eq_none] at hf
    have := hf i (by simp [hi])
    simp [hp] at this
  | some x =>
    have hx := List.find?_some hf
    have hm := List.mem_of_find?_eq_some hf
    simp at hm
    rw [hu x hm hx]

theorem findIdx_unique {α} (l : List α) (p : α → Bool) (j : Nat) (hj : j < l.length) (hp : p l[j] = true)
    (hu : ∀ k (hk : k < l.length), p l[k] = true → k = j) : l.findIdx? p = some j := by
  rw [List.findIdx?_eq_some_iff_getElem]
  refine ⟨hj, hp, ?_⟩
  intro k hk
  have hk' : k < l.length := Nat.lt_trans hk hj
  cases hpk : p l[k] with
  | false => simp
  | true => exact absurd (hu k hk' hpk) (Nat.ne_of_lt hk)

theorem pairwise_key_inj {α κ} {key : α → κ} {l : List α} (h : l.Pairwise (fun a b => key a ≠ key b)) {i j : Nat}
    (hi : i < l.length) (hj : j < l.length) (hk : key l[i] = key l[j]) : i = j := by
  rcases Nat.lt_trichotomy i j with hlt | heq | hgt
  · exact absurd hk (List.pairwise_iff_getElem.mp h i j hi hj hlt)
  · exact heq
  · exact absurd hk.symm (List.pairwise_iff_getElem.mp h j i hj hi hgt)

theorem flatMap_filter_key {α β κ : Type} [DecidableEq κ] (key : α → κ) (g : α → List β) (p : β → Bool) (a0 : α) :
    ∀ (l : List α), l.Pairwise (fun a b => key a ≠ key b) → a0 ∈ l →
    (∀ a ∈ l, ∀ b ∈ g a, p b = decide (key a = key a0)) → (l.flatMap g).filter p = g a0
  | [], _, h, _ => nomatch h
  | a :: r, hpw, hmem, hp => by
    rw [List.pairwise_cons] at hpw
    -- `p` keeps all of `g a` or nothing of it
    have hga : ∀ a' ∈ a :: r, (g a').filter p = if key a' = key a0 then g a' else [] := by
      intro a' ha'
      split <;> rename_i hk
      · exact List.filter_eq_self.mpr fun b hb => by simp [hp a' ha' b hb, hk]
      · exact List.filter_eq_nil_iff.mpr fun b hb => by simp [hp a' ha' b hb, hk]
    rw [List.flatMap_cons, List.filter_append, hga a (by simp)]
    rcases List.mem_cons.mp hmem with rfl | hm
    · have : (r.flatMap g).filter p = [] := by
        rw [List.filter_flatMap, List.flatMap_eq_nil_iff]
        intro a' ha'
        rw [hga a' (by simp [ha']), if_neg (Ne.symm (hpw.1 a' ha'))]
      simp [this]
    · rw [if_neg (hpw.1 a0 hm), List.nil_append]
      exact flatMap_filter_key key g p a0 r hpw.2 hm fun a' ha' => hp a' (by simp [ha'])

theorem dropWhile_none {α} (p : α → Bool) (l : List α) (h : ∀ a ∈ l, p a = false) : l.dropWhile p = l := by
  cases l with
  | nil => rfl
  | cons a r => simp [List.dropWhile, h a (by simp)]

/-! `map f` and then sorted by kind: what the parse action of every block rule does with the elements it read -/

theorem filterMap_map_some {α β γ} (l : List α) (f : α → β) (g : β → Option γ) (h : α → γ) (H : ∀ a, g (f a) = some (h a)) :
    (l.map f).filterMap g = l.map h := by
  induction l with
  | nil => rfl
  | cons a r ih => simp [H, ih]

theorem filterMap_map_none {α β γ} (l : List α) (f : α → β) (g : β → Option γ) (H : ∀ a, g (f a) = none) :
    (l.map f).filterMap g = [] := by
  induction l with
  | nil => rfl
  | cons a r ih => simp [H, ih]

theorem foldl_map_skip {α β γ} (l : List α) (f : α → β) (g : γ → β → γ) (H : ∀ c a, g c (f a) = c) (c : γ) :
    (l.map f).foldl g c = c := by
  induction l generalizing c with
  | nil => rfl
  | cons a r ih => simp [H, ih]

theorem any_map_false {α β} (l : List α) (f : α → β) (g : β → Bool) (H : ∀ a, g (f a) = false) : (l.map f).any g = false := by
  induction l with
  | nil => rfl
  | cons a r ih => simp [H, ih]

/-! `str.splitlines(keepends=True)` and `textwrap.indent` on a text without line breaks -/

theorem splitLinesKeepAux_append (cur l tail : Str) (hl : ∀ c ∈ l, isLineBreak c = false) :
    splitLinesKeepAux cur (l ++ tail) = splitLinesKeepAux (l.reverse ++ cur) tail := by
  induction l generalizing cur with
  | nil => rfl
  | cons x r ih =>
    have hx : isLineBreak x = false := hl x (by simp)
    have hxr : x ≠ '\r' := by intro e; subst e; simp [isLineBreak] at hx
    rw [List.cons_append, splitLinesKeepAux.eq_def]
    split
    · rename_i heq; cases heq
    · rename_i heq; exact absurd (List.cons.inj heq).1 hxr
    · rename_i cur' _ _ _ _ _ heq
      cases heq
      simp only [hx, Bool.false_eq_true, ↓reduceIte]
      rw [ih (x :: cur') fun c hc => hl c (by simp [hc])]
      simp

theorem splitLinesKeepAux_plain (cur s : Str) (hs : ∀ c ∈ s, isLineBreak c = false) (hne : cur ≠ [] ∨ s ≠ []) :
    splitLinesKeepAux cur s = [cur.reverse ++ s] := by
  have h := splitLinesKeepAux_append cur s [] hs
  rw [List.append_nil] at h
  have hne' : (s.reverse ++ cur).isEmpty = false := by cases s <;> cases cur <;> simp_all
  rw [h, splitLinesKeepAux, hne']
  simp

theorem textwrapIndent_line (p l : Str) (hl : ∀ c ∈ l, isLineBreak c = false) (hsp : l.all isSpaceChar = false) :
    textwrapIndent p l = p ++ l := by
  have hne : l ≠ [] := by rintro rfl; simp at hsp
  unfold textwrapIndent splitLinesKeep
  rw [splitLinesKeepAux_plain [] l hl (Or.inr hne)]
  simp only [List.reverse_nil, List.nil_append, List.flatMap_cons, List.flatMap_nil, hsp, Bool.false_eq_true, ↓reduceIte,
    List.append_nil]

/-! a Python dict filled from pairs with pairwise different keys -/

theorem dictSet_new (d : List (Str × Str)) (k v : Str) (h : ∀ p ∈ d, p.1 ≠ k) : Bp.dictSet d k v = d ++ [(k, v)] := by
  unfold Bp.dictSet
  have : d.any (fun p => p.1 == k) = false := by
    rw [List.any_eq_false]; intro p hp; simpa using h p hp
  simp [this]

theorem dictOf_distinct (ps : List (Str × Str)) (h : ps.Pairwise (fun a b => a.1 ≠ b.1)) : Bp.dictOf ps = ps := by
  have key : ∀ (ps d : List (Str × Str)), (d ++ ps).Pairwise (fun a b => a.1 ≠ b.1) →
      ps.foldl (fun d p => Bp.dictSet d p.1 p.2) d = d ++ ps := by
    intro ps
    induction ps with
    | nil => intro d _; simp
    | cons p r ih =>
      intro d hd
      rw [List.foldl_cons, dictSet_new d p.1 p.2 (by
        intro q hq
        have := List.pairwise_append.mp hd
        exact this.2.2 q hq p (by simp))]
      have := ih (d ++ [p]) (by simpa using hd)
      simpa using this
  unfold Bp.dictOf
  simpa using key ps [] (by simpa using h)

end C02
end PyDBML
