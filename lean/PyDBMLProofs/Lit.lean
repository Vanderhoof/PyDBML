/-
`lit "…"` is `String.toList "…"`, and for the kernel that is a run of the UTF-8 decoder over a `ByteArray`, quadratic in the
length of the literal (80 characters ≈ 1.5 s, 160 ≈ 5 s).  `lit_eq rfl` replaces the literal by its list of characters:
the unifier spells them out, and the kernel only compares the literal with `String.ofList [...]`, which is linear.
-/
import PyDBMLModel.Py
namespace PyDBML

theorem lit_eq {s : String} {l : Str} (hs : s = String.ofList l) : lit s = l := by
  subst hs; exact String.toList_ofList

end PyDBML
