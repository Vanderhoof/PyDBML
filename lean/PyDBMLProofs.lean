import PyDBMLProofs.Lit
import PyDBMLProofs.Cursor
import PyDBMLProofs.Except
import PyDBMLProofs.Join
import PyDBMLProofs.Hoare
import PyDBMLProofs.Fuel
import PyDBMLProofs.Run
import PyDBMLProofs.Props.C13Lex
import PyDBMLProofs.Props.C02Base
import PyDBMLProofs.Props.C02Run
import PyDBMLProofs.Props.C02Table
import PyDBMLProofs.Props.C02Spelling
import PyDBMLProofs.Props.C02Comment
import PyDBMLProofs.Props.C01LayoutEnd
import PyDBMLProofs.Props.C02Doc
import PyDBMLProofs.Props.C01Layout
import PyDBMLProofs.Props.C02Refs
import PyDBMLProofs.Props.C02Sticky
import PyDBMLProofs.Props.C02Form
import PyDBMLProofs.Props.C02TableNote
import PyDBMLProofs.Props.C02FormTables
import PyDBMLProofs.Props.C02FormRefs
import PyDBMLProofs.Props.C02Plain
import PyDBMLProofs.Props.C02Inline
import PyDBMLProofs.Props.C02Flags
import PyDBMLProofs.Props.C02FlagsTables
import PyDBMLProofs.Props.C02EnumNote
import PyDBMLProofs.Props.C02EnumPlain
import PyDBMLProofs.Props.C02Group
import PyDBMLProofs.Props.C02Project
import PyDBMLProofs.Props.C02Document
import PyDBMLProofs.Props.C01LayoutDoc
import PyDBMLProofs.Props.C01Case
import PyDBMLProofs.Props.C03
import PyDBMLProofs.Props.C03Base
import PyDBMLProofs.Props.C03Read
import PyDBMLProofs.Props.C04
import PyDBMLProofs.Props.C04Read
import PyDBMLProofs.Props.C04Inline
import PyDBMLProofs.Props.C03Script
import PyDBMLProofs.Props.C03Index
import PyDBMLProofs.Props.C03ScriptIx
import PyDBMLProofs.Props.C03Comment
import PyDBMLProofs.Props.C10
import PyDBMLProofs.Props.C05
import PyDBMLProofs.Props.C05Link
import PyDBMLProofs.Props.C06
import PyDBMLProofs.Props.C06Grammar
import PyDBMLProofs.Props.C07
import PyDBMLProofs.Props.C08
import PyDBMLProofs.Props.C08Render
import PyDBMLProofs.Props.C08Dbml
import PyDBMLProofs.Props.C09
import PyDBMLProofs.Props.C09Table
import PyDBMLProofs.Props.C12
import PyDBMLProofs.Props.C13
import PyDBMLProofs.Props.C13Norm
import PyDBMLProofs.Props.C14
import PyDBMLProofs.Props.C15
import PyDBMLProofs.Props.C15Grammar
import PyDBMLProofs.Props.C16
import PyDBMLProofs.Props.C17
import PyDBMLProofs.Props.C18
import PyDBMLProofs.Props.C18Order
